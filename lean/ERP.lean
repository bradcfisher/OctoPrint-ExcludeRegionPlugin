-- Root of the library: every model, lemma and property module.
-- model and specifications
import ERP.Basic
import ERP.Model.Axis
import ERP.Model.Region
import ERP.Model.State
import ERP.Model.Handlers
import ERP.Model.Regex
import ERP.Model.Parser
import ERP.Model.Format
import ERP.Model.Entry
import ERP.Model.Plugin
import ERP.Gen.Regexes
import ERP.Gen.Consts
import ERP.FloatOps
import ERP.Total
import ERP.Spec.Run
import ERP.Spec.Lifecycle
import ERP.Spec.Printer
import ERP.Spec.Sys
import ERP.Spec.Reader
-- ties to the source
import ERP.Lemmas.GenGeometry
import ERP.Lemmas.GenArith
import ERP.Lemmas.GenConsts
import ERP.Lemmas.GenTemplates
import ERP.Lemmas.GenTies
-- arithmetic
import ERP.Lemmas.Spec
import ERP.Lemmas.RealOps
-- filter
import ERP.Lemmas.Moves
import ERP.Lemmas.Refine
import ERP.Lemmas.Branches
import ERP.Lemmas.Track
import ERP.Lemmas.Invariant
import ERP.Lemmas.StepInv
import ERP.Lemmas.Ctrl
-- extruder
import ERP.Lemmas.EView
import ERP.Lemmas.EInv
import ERP.Lemmas.EStep
-- plugin shell
import ERP.Lemmas.Monad
import ERP.Lemmas.PluginSpec
-- regex and parser
import ERP.Lemmas.RegexLogic
import ERP.Lemmas.Regex
import ERP.Lemmas.Text
import ERP.Lemmas.ParseOk
import ERP.Lemmas.ParamScan
import ERP.Lemmas.LineTotal
import ERP.Lemmas.LineSpans
import ERP.Lemmas.LineExact
import ERP.Lemmas.Reparse
import ERP.Lemmas.ParseShape
import ERP.Lemmas.RetractExact
-- properties
import ERP.Properties.C01
import ERP.Properties.C02
import ERP.Properties.C03
import ERP.Properties.C04
import ERP.Properties.C05
import ERP.Properties.C06
import ERP.Properties.C07
import ERP.Properties.C08
import ERP.Properties.C09
import ERP.Properties.C09Text
import ERP.Properties.C09Run
import ERP.Properties.C10
import ERP.Properties.C11
import ERP.Properties.C12
import ERP.Properties.C13
import ERP.Properties.C14
import ERP.Properties.C15
import ERP.Properties.C16
import ERP.Properties.C17
import ERP.Properties.C18
import ERP.Properties.C18Closure
import ERP.Properties.C19
import ERP.Properties.C20
