import ERP.Lemmas.Regex
import ERP.Gen.Regexes
/-! # `REGEX_GCODE_LINE` matches at every offset of every text

The catch-all alternative `[^;\r\n]*?` followed by blanks, an optional comment and the line ending
always finds a match; the first alternative only adds candidates.  Also `wp_eol`, soundness
for the line ending. -/
namespace ERP.Rx

abbrev SEMIc : List CC := [.lit (Char.ofNat 59)]
abbrev CRLF : List CC := [.lit (Char.ofNat 13), .lit (Char.ofNat 10)]

def WS : Re := .rep true 0 none (.chars false [.lit (Char.ofNat 32)])
def CATCH : Re := .rep false 0 none (.chars true [.lit (Char.ofNat 59), .lit (Char.ofNat 13), .lit (Char.ofNat 10)])
def COMMENT : Re := .rep true 0 (some 1) (.group 12 (.seq (.chars false [.lit (Char.ofNat 59)])
  (.rep true 0 none (.chars true [.lit (Char.ofNat 13), .lit (Char.ofNat 10)]))))
def EOL : Re := .group 13 (.alt (.seq (.chars false [.lit (Char.ofNat 13)]) (.chars false [.lit (Char.ofNat 10)]))
  (.alt (.chars false [.lit (Char.ofNat 13)]) (.alt (.chars false [.lit (Char.ofNat 10)]) (.at "end_string"))))

/-- the shape of the regex regenerated from the source (checked by `rfl` at every build) -/
theorem gcodeLine_shape : ∃ A, Gen.gcodeLine =
    .seq (.group 1 WS) (.seq (.group 2 (.alt A CATCH)) (.seq (.group 11 WS) (.seq COMMENT EOL))) :=
  ⟨_, rfl⟩

theorem wp_eol {ctx : Ctx} {p : Nat} {c : Caps} {Q : Nat → Caps → Prop}
    (h : ∀ p', (p < p' ∧ (passes ctx false [.lit (Char.ofNat 13)] p = true ∨
          passes ctx false [.lit (Char.ofNat 10)] p = true)) ∨ (p' = p ∧ p = ctx.s.size) →
      Q p' ((13, p, p') :: c)) : WP ctx EOL p c Q := by
  refine wp_group (wp_alt ?_ (wp_alt ?_ (wp_alt ?_ ?_)))
  · exact wp_seq (wp_chars fun h1 => wp_chars fun _ => h _ (.inl ⟨Nat.lt_succ_of_lt (Nat.lt_succ_self p), .inl h1⟩))
  · exact wp_chars fun h1 => h _ (.inl ⟨Nat.lt_succ_self p, .inl h1⟩)
  · exact wp_chars fun h1 => h _ (.inl ⟨Nat.lt_succ_self p, .inr h1⟩)
  · exact wp_at fun hk => h _ (.inr ⟨rfl, (atOk_end_string ctx p).mp hk⟩)

section
variable {R : Type} (ctx : Ctx) (k : Nat → Caps → Option R) (hk : ∀ p c, (k p c).isSome)
include hk

theorem some_eol (p : Nat) (c : Caps) (hp : p ≤ ctx.s.size)
    (hstop : passes ctx true CRLF p = false) :
    (m ctx EOL p c k).isSome := by
  rw [EOL, m_group]
  by_cases hps : p < ctx.s.size
  · apply some_alt_right
    rcases passes_cons (passes_of_neg hps hstop) with h | h
    · exact some_alt_left (some_chars h (hk _ _))
    · exact some_alt_right (some_alt_left (some_chars h (hk _ _)))
  · refine some_alt_right (some_alt_right (some_alt_right ?_))
    rw [m_at, if_pos ((atOk_end_string ctx p).mpr (Nat.le_antisymm hp (Nat.not_lt.mp hps)))]
    exact hk _ _

theorem some_comment_eol (p : Nat) (c : Caps) (hp : p ≤ ctx.s.size)
    (hstop : passes ctx true (.lit (Char.ofNat 59) :: CRLF) p = false) :
    (m ctx (.seq COMMENT EOL) p c k).isSome := by
  rw [m_seq, COMMENT]
  by_cases hsemi : passes ctx false SEMIc p = true
  · have hps := passes_lt hsemi
    have hr := span_run (show p + 1 ≤ ctx.s.size from hps) true CRLF
    apply some_opt_take hp
    rw [m_group, m_seq]
    refine some_chars hsemi (some_star ctx true true _ _ c (p + 1) _ hr.le hr.inside hr.all ?_)
    rw [if_neg (by rw [beq_iff_eq]; exact Nat.ne_of_gt (Nat.lt_of_succ_le hr.le))]
    exact some_eol ctx k hk _ _ hr.inside hr.stop
  · refine some_opt_skip hp (some_eol ctx k hk p c hp ?_)
    by_cases hps : p < ctx.s.size
    · rcases passes_cons (passes_of_neg hps hstop) with h | h
      · exact absurd h hsemi
      · rw [passes_neg hps, h]; rfl
    · exact passes_ge (Nat.not_lt.mp hps) _ _

/-- **Totality.** The line regex matches at every offset. -/
theorem gcodeLine_total_k (off : Nat) (c : Caps) (hoff : off ≤ ctx.s.size) :
    (m ctx Gen.gcodeLine off c k).isSome := by
  obtain ⟨A, hA⟩ := gcodeLine_shape
  have hr := span_run hoff true (.lit (Char.ofNat 59) :: CRLF)
  rw [hA, m_seq, m_group]
  unfold WS
  -- leading blanks: take none; the catch-all up to the first `;`, CR or LF; trailing blanks: none
  refine some_star ctx true false _ _ c off off (Nat.le_refl _) hoff (fun i h1 h2 => absurd h2 (Nat.not_lt.mpr h1)) ?_
  rw [m_seq, m_group]
  refine some_alt_right (some_star ctx false true _ _ _ off _ hr.le hr.inside hr.all ?_)
  rw [m_seq, m_group]
  exact some_star ctx true false _ _ _ _ _ (Nat.le_refl _) hr.inside (fun i h1 h2 => absurd h2 (Nat.not_lt.mpr h1))
    (some_comment_eol ctx k hk _ _ hr.inside hr.stop)

end

theorem gcodeLine_total (s : Array Char) (off : Nat) (hoff : off ≤ s.size) :
    (matchAt Gen.gcodeLine s off).isSome :=
  gcodeLine_total_k ⟨s⟩ _ (fun _ _ => rfl) off [] hoff

end ERP.Rx
