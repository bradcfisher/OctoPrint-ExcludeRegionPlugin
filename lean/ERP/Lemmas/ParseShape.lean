import ERP.Lemmas.LineExact
/-! # Inversion of a match of the line regex on a backslash-free text

`line_inv`: a match went through leading blanks and then the command alternative (`CodeFacts`,
`restA`) or the catch-all; `restA_plain`: what `restA` captured as parameters is plain and trimmed. -/
namespace ERP.Rx

theorem tailK_capsIrrel (ctx : Ctx) (p1 : Nat) : CapsIrrel (tailK ctx p1) := by
  unfold tailK
  apply m_capsIrrel ctx (.seq WSr OPTCK)
  intro p c c'
  exact m_capsIrrel ctx TAIL2 (fun p c => some (p, c)) (fun _ _ _ => rfl) p _ _

theorem tailK_frame (ctx : Ctx) (p1 p : Nat) (c : Caps) (res : Nat × Caps) (hp : p ≤ ctx.s.size)
    (h : tailK ctx p1 p c = some res) :
    p ≤ res.1 ∧ ∀ j, j ≠ 2 → j ≠ 10 → j ≠ 11 → j ≠ 12 → j ≠ 13 → capOf res.2 j = capOf c j := by
  unfold tailK at h
  -- the groups of each part (`[10]`, `[11, 12, 13]`) are computed by unfolding `Re.groups`
  obtain ⟨p', c', hk, hf⟩ := m_good ctx (.seq WSr OPTCK) p c _ res hp h
  obtain ⟨p'', c'', hk2, hf2⟩ := m_good ctx TAIL2 p' _ _ res hf.inside hk
  cases hk2
  refine ⟨Nat.le_trans hf.le hf2.le, ?_⟩
  intro j h2 h10 h11 h12 h13
  rw [(show ∀ j, j ∉ [11, 12, 13] → _ from hf2.keep) j (by simp only [List.mem_cons, List.not_mem_nil, or_false]; omega),
    capOf_cons_ne h2,
    (show ∀ j, j ∉ [10] → _ from hf.keep) j (by simp only [List.mem_cons, List.not_mem_nil, or_false]; omega)]

theorem tailK_back (ctx : Ctx) (p1 p : Nat) (c c' : Caps) (hsp : passes ctx false SP p = true)
    (h : (tailK ctx p1 (p + 1) c).isSome) : (tailK ctx p1 p c').isSome := by
  rw [tailK_capsIrrel ctx p1 (p + 1) c c'] at h
  rw [tailK_eq, WSr] at h ⊢
  exact m_star_back hsp h

theorem optp_tail_shift (ctx : Ctx) (hnb : ∀ i, passes ctx false BSc i = false) (p1 q e : Nat) (c c' : Caps)
    (hq : q < e) (he : e ≤ ctx.s.size) (hplain : ∀ i, q ≤ i → i < e → passes ctx true PSTOP i = true)
    (hend : (tailK ctx p1 e c').isSome) : (m ctx OPTP (q + 1) c (tailK ctx p1)).isSome := by
  rw [optp_eq ctx hnb (q + 1) c _ (by omega), orElse'_isSome]
  by_cases hee : e = q + 1
  · rw [← hee, tailK_capsIrrel ctx p1 e c c', hend, Bool.or_true]
  · rw [if_pos (hplain (q + 1) (by omega) (by omega)),
      lazyG_reach _ _ c e (by rw [tailK_capsIrrel ctx p1 e _ c']; exact hend) _ _ (by omega) (by omega)
        fun i hi1 hi2 => hplain i (by omega) hi2]
    rfl

/-- the parameter group of a match: absent, or a non-empty run of plain characters that neither
starts nor ends with a blank -/
def ParamsPlain (ctx : Ctx) (d2 : Nat) (caps cC : Caps) : Prop :=
  capOf caps 9 = capOf cC 9 ∨
    ∃ q e, d2 ≤ q ∧ q < e ∧ e ≤ ctx.s.size ∧ capOf caps 9 = some (q, e) ∧
      (∀ i, q ≤ i → i < e → passes ctx true PSTOP i = true) ∧
      passes ctx false SP q = false ∧ passes ctx false SP (e - 1) = false

/-- **what the rest of the command alternative does after the code** on a backslash-free text:
the parameters it captures are plain and trimmed, everything captured before is kept -/
theorem restA_plain (ctx : Ctx) (hnb : ∀ i, passes ctx false BSc i = false) (p1 d2 : Nat) (cC : Caps)
    (res : Nat × Caps) (hd2 : d2 ≤ ctx.s.size) (h : restA ctx p1 d2 cC = some res) :
    ParamsPlain ctx d2 res.2 cC ∧
      ∀ j, j ≠ 2 → j ≠ 9 → j ≠ 10 → j ≠ 11 → j ≠ 12 → j ≠ 13 → capOf res.2 j = capOf cC j := by
  rw [restA_eq, WSr] at h
  obtain ⟨q, hq1, hqs, -, hq3, hq4⟩ := m_star_inversion hd2 h
  rcases optp_inversion ctx q cC _ res hnb hqs hq3 with hskip | ⟨e, hqe, hes, hplain, hend, hnone⟩
  · obtain ⟨_, hfr⟩ := tailK_frame ctx p1 q cC res hqs hskip
    exact ⟨.inl (hfr 9 (by omega) (by omega) (by omega) (by omega) (by omega)),
      fun j h2 _ h10 h11 h12 h13 => hfr j h2 h10 h11 h12 h13⟩
  · obtain ⟨_, hfr⟩ := tailK_frame ctx p1 e _ res hes hend
    have hcap9 : capOf res.2 9 = some (q, e) := by
      rw [hfr 9 (by omega) (by omega) (by omega) (by omega) (by omega), capOf_cons_eq]
    have hsome : (tailK ctx p1 e ((9, q, e) :: cC)).isSome := by rw [hend]; rfl
    -- first character: not a blank, else the greedy blanks before would have taken it
    have hfirst : passes ctx false SP q = false := by
      cases hsp : passes ctx false SP q with
      | false => rfl
      | true =>
        have := optp_tail_shift ctx hnb p1 q e cC _ hqe hes hplain hsome
        rw [hq4 hsp] at this
        cases this
    -- last character: not a blank, else the lazy group would have stopped before it
    have hlast : passes ctx false SP (e - 1) = false := by
      cases hsp : passes ctx false SP (e - 1) with
      | false => rfl
      | true =>
        have hq1e : q < e - 1 := by
          rcases Nat.lt_or_ge q (e - 1) with hlt | hge
          · exact hlt
          · rw [show e - 1 = q by omega, hfirst] at hsp
            cases hsp
        have := tailK_back ctx p1 (e - 1) _ ((9, q, e - 1) :: cC) hsp (by rw [show e - 1 + 1 = e by omega]; exact hsome)
        rw [hnone (e - 1) hq1e (by omega)] at this
        cases this
    exact ⟨.inr ⟨q, e, hq1, hqe, hes, hcap9, hplain, hfirst, hlast⟩,
      fun j h2 h9 h10 h11 h12 h13 => by rw [hfr j h2 h10 h11 h12 h13, capOf_cons_ne h9]⟩

/-- what the command word contributes to the captures -/
def CodeFacts (ctx : Ctx) (off p1 : Nat) (cC : Caps) : Prop :=
  capOf cC 1 = some (off, p1) ∧ capOf cC 9 = none ∧
    ((∃ a, passes ctx false GMc a = true ∧ capOf cC 4 = some (a, a + 1)) ∨
     (∃ a, passes ctx false TTc a = true ∧ capOf cC 4 = none ∧ capOf cC 7 = some (a, a + 1) ∧ capOf cC 6 = none))

/-- **inversion of a match of the line regex**: leading blanks, then either the command
alternative — the code's captures, then `restA` from some position — or the catch-all, which sets
no type group -/
theorem line_inv (ctx : Ctx) (off : Nat) (hoff : off ≤ ctx.s.size) (res : Nat × Caps)
    (h : matchAt Gen.gcodeLine ctx.s off = some res) :
    ∃ p1, off ≤ p1 ∧ (∀ i, off ≤ i → i < p1 → passes ctx false SP i = true) ∧
      ((∃ d2 cC, d2 ≤ ctx.s.size ∧ CodeFacts ctx off p1 cC ∧ restA ctx p1 d2 cC = some res) ∨
       (capOf res.2 1 = some (off, p1) ∧ capOf res.2 4 = none ∧ capOf res.2 7 = none)) := by
  obtain ⟨s⟩ := ctx
  unfold matchAt at h
  rw [gcodeLine_parts, m_seq, m_group] at h
  rw [WSr] at h
  obtain ⟨p1, hle, hp1s, hall, hk, -⟩ := m_star_inversion hoff h
  refine ⟨p1, hle, hall, ?_⟩
  rw [m_seq, m_group, m_alt] at hk
  rcases orElse'_some hk with hb | hcatch
  · left
    rw [bodyA_eq] at hb
    have w2 : WP ⟨s⟩ (.seq OPTN (.seq WSr CODEr)) p1 [(1, off, p1)]
        (fun p' c' => p' ≤ s.size ∧ CodeFacts ⟨s⟩ off p1 c') := by
      apply wp_seq
      apply wp_any OPTN hp1s
      intro pa ca fa
      apply wp_seq
      apply wp_nogroup WSr rfl fa.inside
      intro pb _ hpb
      have hca : ∀ j, j ∉ [3] → capOf ca j = capOf [(1, off, p1)] j := fa.keep
      unfold CODEr
      apply wp_alt
      · apply wp_seq
        apply wp_group
        apply wp_chars
        intro hgm
        apply wp_any _ (passes_lt hgm)
        intro pc cc fc
        have hcc : ∀ j, j ∉ [5, 6] → capOf cc j = capOf ((4, pb, pb + 1) :: ca) j := fc.keep
        refine ⟨fc.inside, ?_, ?_, Or.inl ⟨pb, hgm, ?_⟩⟩
        · rw [hcc 1 (by decide), capOf_cons, hca 1 (by decide)]; rfl
        · rw [hcc 9 (by decide), capOf_cons, hca 9 (by decide)]; rfl
        · rw [hcc 4 (by decide), capOf_cons]; rfl
      · apply wp_seq
        apply wp_group
        apply wp_chars
        intro htt
        apply wp_any _ (passes_lt htt)
        intro pc cc fc
        have hcc : ∀ j, j ∉ [8] → capOf cc j = capOf ((7, pb, pb + 1) :: ca) j := fc.keep
        refine ⟨fc.inside, ?_, ?_, Or.inr ⟨pb, htt, ?_, ?_, ?_⟩⟩
        · rw [hcc 1 (by decide), capOf_cons, hca 1 (by decide)]; rfl
        · rw [hcc 9 (by decide), capOf_cons, hca 9 (by decide)]; rfl
        · rw [hcc 4 (by decide), capOf_cons, hca 4 (by decide)]; rfl
        · rw [hcc 7 (by decide), capOf_cons]; rfl
        · rw [hcc 6 (by decide), capOf_cons, hca 6 (by decide)]; rfl
    -- (`hb` nests continuations, `w2` has `.seq`: equal, `m_seq` being `rfl`)
    obtain ⟨d2, cC, ⟨hd2, hfacts⟩, hrest⟩ := w2 _ _ res hb
    exact ⟨d2, cC, hd2, hfacts, hrest⟩
  · right
    obtain ⟨pa, _, ⟨rfl, hpa⟩, hka⟩ := (wp_nogroup CATCH rfl hp1s
      (Q := fun p' c' => c' = [(1, off, p1)] ∧ p' ≤ s.size) fun p' _ h => ⟨rfl, h⟩) _ _ res hcatch
    obtain ⟨pb, cb, hkb, fb⟩ := m_good ⟨s⟩ TAIL2 pa _ _ res hpa hka
    cases hkb
    have hcb : ∀ j, j ∉ [11, 12, 13] → capOf cb j = capOf [(2, p1, pa), (1, off, p1)] j := fb.keep
    exact ⟨hcb 1 (by decide), hcb 4 (by decide), hcb 7 (by decide)⟩

end ERP.Rx
