/-! # `Except` lemmas without Mathlib

For evaluating `do` blocks of the faithful model: `Refine` opens `M`, and PluginSpec, C07, C15, C20
use it without `Refine`.  `bind_eq_ok`, the inversion of a bind that succeeded, is the centre. -/
namespace ERP.M
variable {ε β γ : Type}
@[simp] theorem ok_bind (a : β) (f : β → Except ε γ) : (Except.ok a >>= f) = f a := rfl
@[simp] theorem error_bind (e : ε) (f : β → Except ε γ) : (Except.error e >>= f) = Except.error e := rfl
@[simp] theorem pure_eq_ok (a : β) : (pure a : Except ε β) = .ok a := rfl

theorem bind_eq_ok {x : Except ε β} {f : β → Except ε γ} {c : γ} (h : (x >>= f) = .ok c) :
    ∃ a, x = .ok a ∧ f a = .ok c := by
  cases x with
  | error e => cases h
  | ok a => exact ⟨a, rfl, h⟩
end ERP.M
