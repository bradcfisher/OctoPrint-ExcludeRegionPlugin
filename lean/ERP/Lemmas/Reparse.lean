import ERP.Lemmas.LineExact
import ERP.Lemmas.Text
import ERP.Lemmas.ParseOk
/-! # Exact evaluation of the line regex on a normalised command string

`NormCmd.render` is the string `GcodeParser.commandString` produces for a command with plain
parameters (`ck = none`) and, with ` *<checksum>` appended (`ck = some _`), the string
`stringify(includeComment=False, includeEol=False)` produces; this file computes
`matchAt Gen.gcodeLine` on it (`match_eval`) and what `parse` makes of the match (`reparse_eq`).
The rendered string is read through the text remaining at each position (`drop_p1` … `drop_size`,
by `drop_step`). -/
namespace ERP
open ERP.Rx

theorem digitRun_nat {l : Text} {p n : Nat} {rest : Text} (h : l.drop p = natToText n ++ rest)
    (hrest : ∀ c, rest.head? = some c → c.isDigit = false) :
    DigitRun ⟨l.toArray⟩ p (p + (natToText n).length) := by
  have hpos := List.length_pos_iff.mpr (natToText_ne_nil n)
  have hp : p ≤ l.length := by
    have := congrArg List.length h
    rw [List.length_drop, List.length_append] at this
    omega
  have hr := clsRun_of_drop h hp false DIGc
    (fun c hc => by rw [show DIGc.any (CC.test c) = (c.isDigit || false) from rfl, natToText_digits n c hc]; rfl)
    (fun c hc => by rw [show DIGc.any (CC.test c) = (c.isDigit || false) from rfl, hrest c hc]; rfl)
  exact ⟨by omega, hr.inside, hr.all, hr.stop⟩

/-- a command as `commandString` renders it; with `ck`, as `stringify` without comment and line ending -/
structure NormCmd where
  lw : Text
  ln : Option Nat
  ty : Char
  code : Nat
  sub : Option Nat
  params : Option Text
  ck : Option Nat := none

namespace NormCmd

def nPart (x : NormCmd) : Text := match x.ln with | some n => 'N' :: natToText n ++ [' '] | none => []
def subPart (x : NormCmd) : Text := match x.sub with | some sc => '.' :: natToText sc | none => []
def gPart (x : NormCmd) : Text := x.ty :: natToText x.code ++ x.subPart
def pPart (x : NormCmd) : Text := match x.params with | some ps => ' ' :: ps | none => []
def ckPart (x : NormCmd) : Text := match x.ck with | some cs => ' ' :: '*' :: natToText cs | none => []
def render (x : NormCmd) : Text := x.lw ++ x.nPart ++ x.gPart ++ x.pPart ++ x.ckPart

/-! `p1` end of the indentation, `a` type letter, `d1` end of the code digits, `d2` end of the sub-code,
`size` end of the parameters, `total` length. -/
def p1 (x : NormCmd) : Nat := x.lw.length
def a (x : NormCmd) : Nat := x.p1 + x.nPart.length
def d1 (x : NormCmd) : Nat := x.a + 1 + (natToText x.code).length
def d2 (x : NormCmd) : Nat := x.d1 + x.subPart.length
def size (x : NormCmd) : Nat := x.d2 + x.pPart.length
def total (x : NormCmd) : Nat := x.size + x.ckPart.length

abbrev ctx (x : NormCmd) : Ctx := ⟨x.render.toArray⟩

/-- parameters without escapes or stop characters, not starting or ending with a blank
(`Rx.ParamsPlain`: the same of group 9) -/
def PlainParams (ps : Text) : Prop :=
  ps ≠ [] ∧ ps.head? ≠ some ' ' ∧ ps.getLast? ≠ some ' ' ∧
    ∀ c ∈ ps, c ≠ '\\' ∧ c ≠ ';' ∧ c ≠ '*' ∧ c ≠ '\r' ∧ c ≠ '\n'

/-- what `parse` yields: blanks only (no tabs), an upper-case type, no sub-code for `T` (no group for it) -/
structure WF (x : NormCmd) : Prop where
  lw : ∀ c ∈ x.lw, c = ' '
  ty : x.ty = 'G' ∨ x.ty = 'M' ∨ x.ty = 'T'
  tsub : x.ty = 'T' → x.sub = none
  params : ∀ ps, x.params = some ps → PlainParams ps

theorem drop_0 (x : NormCmd) : x.render.drop 0 =
    x.lw ++ (x.nPart ++ (x.ty :: (natToText x.code ++ (x.subPart ++ (x.pPart ++ x.ckPart))))) := by
  simp only [List.drop_zero, render, gPart, List.append_assoc, List.cons_append]

theorem drop_p1 (x : NormCmd) : x.render.drop x.p1 =
    x.nPart ++ (x.ty :: (natToText x.code ++ (x.subPart ++ (x.pPart ++ x.ckPart)))) := by
  have := drop_step x.drop_0
  rwa [Nat.zero_add] at this

theorem drop_a (x : NormCmd) : x.render.drop x.a =
    x.ty :: (natToText x.code ++ (x.subPart ++ (x.pPart ++ x.ckPart))) := drop_step x.drop_p1

theorem drop_a1 (x : NormCmd) : x.render.drop (x.a + 1) =
    natToText x.code ++ (x.subPart ++ (x.pPart ++ x.ckPart)) := drop_cons x.drop_a

theorem drop_d1 (x : NormCmd) : x.render.drop x.d1 = x.subPart ++ (x.pPart ++ x.ckPart) := drop_step x.drop_a1

theorem drop_d2 (x : NormCmd) : x.render.drop x.d2 = x.pPart ++ x.ckPart := drop_step x.drop_d1

theorem drop_size (x : NormCmd) : x.render.drop x.size = x.ckPart := drop_step x.drop_d2

/-! Positions are related through the equations below and never by `rfl`: unfolding `total`,
`size` … against each other makes the elaborator evaluate `(natToText _).length`. -/

theorem drop_ln (x : NormCmd) {n : Nat} (hl : x.ln = some n) : x.render.drop x.p1 =
    'N' :: (natToText n ++ (' ' :: x.ty :: (natToText x.code ++ (x.subPart ++ (x.pPart ++ x.ckPart))))) := by
  rw [x.drop_p1, nPart, hl]; simp only [List.append_assoc, List.cons_append, List.nil_append]

theorem a_ln (x : NormCmd) {n : Nat} (hl : x.ln = some n) : x.p1 + 1 + (natToText n).length + 1 = x.a := by
  simp only [a, nPart, hl, List.length_append, List.length_cons, List.length_nil]; omega

theorem a_none (x : NormCmd) (hl : x.ln = none) : x.a = x.p1 := by
  simp only [a, nPart, hl, List.length_nil, Nat.add_zero]

theorem drop_sub (x : NormCmd) {sc : Nat} (hs : x.sub = some sc) :
    x.render.drop x.d1 = '.' :: (natToText sc ++ (x.pPart ++ x.ckPart)) := by
  rw [x.drop_d1, subPart, hs]; rfl

theorem d2_sub (x : NormCmd) {sc : Nat} (hs : x.sub = some sc) : x.d1 + 1 + (natToText sc).length = x.d2 := by
  simp only [d2, subPart, hs, List.length_cons]; omega

theorem d2_none (x : NormCmd) (hs : x.sub = none) : x.d2 = x.d1 := by
  simp only [d2, subPart, hs, List.length_nil, Nat.add_zero]

theorem drop_params (x : NormCmd) {ps : Text} (hp : x.params = some ps) :
    x.render.drop x.d2 = ' ' :: (ps ++ x.ckPart) := by
  rw [x.drop_d2, pPart, hp]; rfl

theorem size_params (x : NormCmd) {ps : Text} (hp : x.params = some ps) : x.d2 + 1 + ps.length = x.size := by
  simp only [size, pPart, hp, List.length_cons]; omega

theorem size_none (x : NormCmd) (hp : x.params = none) : x.size = x.d2 := by
  simp only [size, pPart, hp, List.length_nil, Nat.add_zero]

/-- (`++ []`: a piece followed by the empty rest, as `digitRun_nat`, `slice_of_drop` take it) -/
theorem drop_ck (x : NormCmd) {cs : Nat} (hc : x.ck = some cs) :
    x.render.drop x.size = ' ' :: '*' :: (natToText cs ++ []) := by
  rw [x.drop_size, ckPart, hc, List.append_nil]

theorem total_ck (x : NormCmd) {cs : Nat} (hc : x.ck = some cs) : x.size + 2 + (natToText cs).length = x.total := by
  simp only [total, ckPart, hc, List.length_cons]; omega

theorem total_none (x : NormCmd) (hc : x.ck = none) : x.total = x.size := by
  simp only [total, ckPart, hc, List.length_nil, Nat.add_zero]

theorem a_le_total (x : NormCmd) : x.a ≤ x.total := by
  simp only [total, size, d2, d1]; omega

theorem render_length (x : NormCmd) : x.render.length = x.total := by
  simp only [render, total, size, d2, d1, a, p1, gPart, List.length_append, List.length_cons]
  omega

theorem ctx_size (x : NormCmd) : x.ctx.s.size = x.total := by
  simp only [List.size_toArray, render_length]

@[elab_as_elim] theorem ty_elim {P : Char → Prop} (c : Char) (h : c = 'G' ∨ c = 'M' ∨ c = 'T')
    (hG : P 'G') (hM : P 'M') (hT : P 'T') : P c := by
  rcases h with e | e | e <;> rw [e] <;> assumption

theorem tail_head (x : NormCmd) : ∀ ch, (x.pPart ++ x.ckPart).head? = some ch → ch = ' ' := by
  unfold pPart ckPart
  -- each of the two parts is empty or starts with a blank
  cases x.params <;> cases x.ck <;> exact fun ch hh => by cases hh <;> rfl

theorem no_backslash (x : NormCmd) (h : x.WF) : ∀ i, passes x.ctx false BSc i = false := by
  apply passes_lit_of_not_mem
  have hd : ∀ n, '\\' ∉ natToText n := fun n hm => by cases natToText_digits n _ hm
  have hlw : '\\' ∉ x.lw := fun hm => by cases h.lw _ hm
  have hty : '\\' ≠ x.ty := ty_elim x.ty h.ty (by decide) (by decide) (by decide)
  have hn : '\\' ∉ x.nPart := by
    unfold nPart
    cases x.ln with
    | none => exact List.not_mem_nil
    | some n =>
      simp only [List.mem_cons, List.mem_append, List.not_mem_nil, or_false, not_or]
      exact ⟨⟨by decide, hd n⟩, by decide⟩
  have hs : '\\' ∉ x.subPart := by
    unfold subPart
    cases x.sub with
    | none => exact List.not_mem_nil
    | some sc => exact List.not_mem_cons_of_ne_of_not_mem (by decide) (hd sc)
  have hg : '\\' ∉ x.gPart := by
    simp only [gPart, List.mem_cons, List.mem_append, not_or]
    exact ⟨⟨hty, hd _⟩, hs⟩
  have hp : '\\' ∉ x.pPart := by
    unfold pPart
    cases hps : x.params with
    | none => exact List.not_mem_nil
    | some ps => exact List.not_mem_cons_of_ne_of_not_mem (by decide) fun hm => ((h.params ps hps).2.2.2 _ hm).1 rfl
  have hc : '\\' ∉ x.ckPart := by
    unfold ckPart
    cases x.ck with
    | none => exact List.not_mem_nil
    | some cs =>
      exact List.not_mem_cons_of_ne_of_not_mem (by decide) (List.not_mem_cons_of_ne_of_not_mem (by decide) (hd cs))
  simp only [render, List.mem_append, not_or]
  exact ⟨⟨⟨⟨hlw, hn⟩, hg⟩, hp⟩, hc⟩

/-- (in the order the matcher pushes, latest first: `match_eval` equates lists, not look-ups) -/
def tailCaps (x : NormCmd) : Caps :=
  [(13, x.total, x.total), (11, x.total, x.total), (2, x.p1, x.total)] ++
    (match x.ck with | some _ => [(10, x.size + 2, x.total)] | none => []) ++
    (match x.params with | some _ => [(9, x.d2 + 1, x.size)] | none => [])

theorem ck_eval (x : NormCmd) :
    ∃ q, ClsRun x.ctx false SP x.size q ∧ passes x.ctx true PSTOP q = false ∧
      ∀ c, ckK x.ctx x.p1 q c = some (x.total,
        [(13, x.total, x.total), (11, x.total, x.total), (2, x.p1, x.total)] ++
          (match x.ck with | some _ => [(10, x.size + 2, x.total)] | none => []) ++ c) := by
  cases hc : x.ck with
  | none =>
    rw [← x.total_none hc, ← x.ctx_size]
    exact ⟨_, .nil (Nat.le_refl _) (passes_end _ _ _), passes_end _ _ _, fun c => ckK_end x.ctx x.p1 c⟩
  | some cs =>
    have hd := x.drop_ck hc
    have hd1 := drop_cons hd
    have hrun := digitRun_nat (drop_cons hd1) (fun _ hh => by cases hh)
    rw [x.total_ck hc, ← x.ctx_size] at hrun
    have h1 : passes x.ctx false SP x.size = true := by rw [passes_drop, hd]; rfl
    have h2 : passes x.ctx false SP (x.size + 1) = false := by rw [passes_drop, hd1]; rfl
    have hstar : passes x.ctx false STARc (x.size + 1) = true := by rw [passes_drop, hd1]; rfl
    refine ⟨x.size + 1, .cons h1 (.nil (Nat.le_of_lt (passes_lt hstar)) h2), by rw [passes_drop, hd1]; rfl, fun c => ?_⟩
    rw [ckK_ck x.ctx x.p1 (x.size + 1) c hstar hrun, x.ctx_size]
    rfl

theorem PlainParams.drop {ps : Text} (hps : PlainParams ps) {l : Text} {p : Nat} {rest : Text}
    (hd : l.drop p = ps ++ rest) :
    passes ⟨l.toArray⟩ false SP p = false ∧ passes ⟨l.toArray⟩ false SP (p + ps.length - 1) = false ∧
      ∀ i, p ≤ i → i < p + ps.length → passes ⟨l.toArray⟩ true PSTOP i = true := by
  obtain ⟨hne, hhead, hlast, hall⟩ := hps
  have hj : ps.length - 1 < ps.length := Nat.sub_lt (List.length_pos_iff.mpr hne) Nat.one_pos
  have hblank : ∀ ch, ch ≠ ' ' → (SP.any (CC.test ch) != false) = false := fun ch hch =>
    Bool.eq_false_iff.mpr fun e => hch ((lit_test _ ch).mp e)
  refine ⟨?_, ?_, passes_piece hd true PSTOP fun ch hch => (pstop_test ch).mpr (hall ch hch).2⟩
  · rw [passes_drop, hd]
    cases ps with
    | nil => exact absurd rfl hne
    | cons ch t => exact hblank ch fun e => hhead (e ▸ rfl)
  · rw [Nat.add_sub_assoc (List.length_pos_iff.mpr hne), passes_char (getElem?_of_drop hd hj)]
    exact hblank _ fun e => hlast (by rw [List.getLast?_eq_getElem?, List.getElem?_eq_getElem hj, e])

theorem not_blank {src : Text} {i : Nat} (h : passes ⟨src.toArray⟩ false SP i = false) : src[i]? ≠ some ' ' := by
  intro e; rw [passes_char e false SP] at h; cases h

theorem plainParams_slice {src : Text} (hnb : '\\' ∉ src) {q e : Nat} (hqe : q < e) (he : e ≤ src.length)
    (hplain : ∀ i, q ≤ i → i < e → passes ⟨src.toArray⟩ true PSTOP i = true)
    (hfirst : passes ⟨src.toArray⟩ false SP q = false) (hlast : passes ⟨src.toArray⟩ false SP (e - 1) = false) :
    PlainParams (slice src q e) := by
  refine ⟨slice_ne_nil src q e hqe he, ?_, ?_, fun c hc => ?_⟩
  · rw [slice_head src q e hqe]
    exact not_blank hfirst
  · rw [slice_getLast src q e hqe he]
    exact not_blank hlast
  · exact ⟨fun e' => hnb (slice_subset src q e _ (e' ▸ hc)), (pstop_test c).mp (slice_all src true PSTOP q e hplain c hc)⟩

theorem rest_eval (x : NormCmd) (h : x.WF) (c : Caps) :
    restA x.ctx x.p1 x.d2 c = some (x.total, x.tailCaps ++ c) := by
  obtain ⟨q, hq, hstop, hck⟩ := x.ck_eval
  have hle : x.size ≤ x.ctx.s.size := by rw [x.ctx_size]; exact Nat.le_add_right _ _
  cases hp : x.params with
  | none =>
    have hsz := x.size_none hp
    rw [hsz] at hq
    rw [restA_skip hq x.p1 c _ (no_backslash x h) hstop (hck c)]
    simp only [tailCaps, hp, hsz, List.append_nil]
  | some ps =>
    have hps := h.params ps hp
    have hpos := List.length_pos_iff.mpr hps.1
    have hd := x.drop_params hp
    obtain ⟨hfirst, hlast, hplain⟩ := hps.drop (drop_cons hd)
    rw [x.size_params hp] at hlast hplain
    have hsz := x.size_params hp
    have h1 : passes x.ctx false SP x.d2 = true := by rw [passes_drop, hd]; rfl
    rw [restA_take (.cons h1 (.nil (by omega) hfirst)) x.p1 x.size c _ (no_backslash x h) (by omega) hle hplain
      (tailK_of_run hq x.p1 _ _ (hck _))
      (fun i hi1 hi2 => tailK_none x.ctx x.p1 i (x.size - 1) _ (fun j hj1 hj2 => hplain j (by omega) (by omega))
        (by omega) (by omega) hlast)]
    simp only [tailCaps, hp, List.append_assoc, List.cons_append, List.nil_append]

def codeCaps (x : NormCmd) : Caps :=
  if x.ty = 'T' then [(8, x.a + 1, x.d1), (7, x.a, x.a + 1)]
  else (match x.sub with | some _ => [(6, x.d1 + 1, x.d2)] | none => []) ++ [(5, x.a + 1, x.d1), (4, x.a, x.a + 1)]

theorem passes_a (x : NormCmd) (neg : Bool) (items : List CC) :
    passes x.ctx neg items x.a = (items.any (CC.test x.ty) != neg) := by
  rw [passes_drop, x.drop_a]

theorem code_eval (x : NormCmd) (h : x.WF) (c : Caps) :
    m x.ctx CODEr x.a c (restA x.ctx x.p1) = some (x.total, x.tailCaps ++ x.codeCaps ++ c) := by
  have hblank : ∀ ch, (x.pPart ++ x.ckPart).head? = some ch → ch.isDigit = false :=
    fun ch hh => by rw [x.tail_head ch hh]; rfl
  -- the code digits are followed by `.`, a blank or the end of the text
  have hrun : DigitRun x.ctx (x.a + 1) x.d1 := by
    refine digitRun_nat x.drop_a1 fun ch hh => ?_
    unfold subPart at hh
    cases hs : x.sub with
    | none => rw [hs] at hh; exact hblank ch hh
    | some sc => rw [hs] at hh; cases hh; rfl
  have hnsp := passes_not_lit (hrun.digits _ (Nat.le_refl _) hrun.nonempty) ' ' rfl
  have nosub : x.sub = none → x.d2 = x.d1 ∧ passes x.ctx false DOT x.d1 = false := by
    intro hs
    refine ⟨x.d2_none hs, ?_⟩
    rw [passes_drop, x.drop_d1, subPart, hs, List.nil_append]
    cases hh : x.pPart ++ x.ckPart with
    | nil => rfl
    | cons ch t => rw [x.tail_head ch (by rw [hh]; rfl)]; rfl
  by_cases hT : x.ty = 'T'
  · obtain ⟨hd21, _⟩ := nosub (h.tsub hT)
    apply code_t (by rw [passes_a, hT]; rfl) (by rw [passes_a, hT]; rfl) hnsp hrun
    rw [← hd21, rest_eval x h]
    simp only [codeCaps, hT, if_true, hd21, List.append_assoc, List.cons_append, List.nil_append]
  · have hgm : passes x.ctx false GMc x.a = true := by
      rw [passes_a]
      revert hT
      exact ty_elim x.ty h.ty (fun _ => rfl) (fun _ => rfl) fun e => absurd rfl e
    cases hs : x.sub with
    | none =>
      obtain ⟨hd21, hnodot⟩ := nosub hs
      refine code_gm hgm hnsp hrun ((opt_skip hrun.le hnodot).trans ?_)
      rw [← hd21, rest_eval x h]
      simp only [codeCaps, hT, if_false, hs, hd21, List.append_assoc, List.cons_append, List.nil_append]
    | some sc =>
      have hd := x.drop_sub hs
      have hrun2 := digitRun_nat (drop_cons hd) hblank
      rw [x.d2_sub hs] at hrun2
      refine code_gm hgm hnsp hrun (opt_digits (by rw [passes_drop, hd]; rfl) hrun2 ?_)
      rw [rest_eval x h]
      simp only [codeCaps, hT, if_false, hs, List.append_assoc, List.cons_append, List.nil_append]

def nCaps (x : NormCmd) : Caps :=
  match x.ln with | some n => [(3, x.p1 + 1, x.p1 + 1 + (natToText n).length)] | none => []

def caps (x : NormCmd) : Caps := x.tailCaps ++ x.codeCaps ++ x.nCaps ++ [(1, 0, x.p1)]

/-- **the line regex on a normalised command** -/
theorem match_eval (x : NormCmd) (h : x.WF) :
    matchAt Gen.gcodeLine x.render.toArray 0 = some (x.total, x.caps) := by
  have hlw : ∀ i, 0 ≤ i → i < x.p1 → passes x.ctx false SP i = true := by
    have := passes_piece x.drop_0 false SP fun ch hch => by rw [h.lw ch hch]; rfl
    rwa [Nat.zero_add] at this
  have hle : x.a ≤ x.ctx.s.size := x.ctx_size ▸ x.a_le_total
  have hnsp : passes x.ctx false SP x.a = false := by rw [passes_a]; exact ty_elim x.ty h.ty rfl rfl rfl
  have hnn : passes x.ctx false NLc x.a = false := by rw [passes_a]; exact ty_elim x.ty h.ty rfl rfl rfl
  cases hl : x.ln with
  | none =>
    have hc := code_eval x h [(1, 0, x.p1)]
    rw [x.a_none hl] at hnsp hnn hc hle
    apply line_assemble (ctx := x.ctx) (.of_stop (Nat.zero_le _) (Nat.zero_le _) hlw hnsp)
    rw [OPTN, opt_skip hle hnn]
    unfold WSr
    rw [m_star_empty hnsp, hc]
    simp only [caps, nCaps, hl, List.append_nil, List.append_assoc]
  | some n =>
    have hd := x.drop_ln hl
    have hd1 := drop_cons hd
    have hrun := digitRun_nat hd1 (fun ch hh => by cases hh; rfl)
    have hd2 := drop_step hd1
    have hsp : passes x.ctx false SP (x.p1 + 1 + (natToText n).length) = true := by rw [passes_drop, hd2]; rfl
    apply line_assemble (ctx := x.ctx)
      (.of_stop (Nat.zero_le _) (Nat.zero_le _) hlw (by rw [passes_drop, hd]; rfl))
    apply opt_digits (by rw [passes_drop, hd]; rfl) hrun
    unfold WSr
    refine m_star_max (.cons hsp (.nil (by rw [x.a_ln hl]; exact hle) (by rw [x.a_ln hl]; exact hnsp))) ?_
    rw [x.a_ln hl, code_eval x h]
    simp only [caps, nCaps, hl, List.append_assoc, List.cons_append, List.nil_append]

/-- `caps` without case distinctions on the optional parts -/
theorem caps_eq (x : NormCmd) : x.caps =
    [(13, x.total, x.total), (11, x.total, x.total), (2, x.p1, x.total)] ++
      (x.ck.map fun _ => (10, x.size + 2, x.total)).toList ++
      (x.params.map fun _ => (9, x.d2 + 1, x.size)).toList ++
      (if x.ty = 'T' then [(8, x.a + 1, x.d1), (7, x.a, x.a + 1)]
       else (x.sub.map fun _ => (6, x.d1 + 1, x.d2)).toList ++ [(5, x.a + 1, x.d1), (4, x.a, x.a + 1)]) ++
      (x.ln.map fun n => (3, x.p1 + 1, x.p1 + 1 + (natToText n).length)).toList ++ [(1, 0, x.p1)] := by
  unfold caps tailCaps codeCaps nCaps
  cases x.ck <;> cases x.params <;> cases x.sub <;> cases x.ln <;> rfl

theorem capOf_caps (x : NormCmd) (h : x.WF) :
    capOf x.caps 1 = some (0, x.p1) ∧ capOf x.caps 2 = some (x.p1, x.total) ∧
    capOf x.caps 3 = x.ln.map (fun n => (x.p1 + 1, x.p1 + 1 + (natToText n).length)) ∧
    capOf x.caps 4 = (if x.ty = 'T' then none else some (x.a, x.a + 1)) ∧
    capOf x.caps 5 = (if x.ty = 'T' then none else some (x.a + 1, x.d1)) ∧
    capOf x.caps 6 = x.sub.map (fun _ => (x.d1 + 1, x.d2)) ∧
    capOf x.caps 7 = (if x.ty = 'T' then some (x.a, x.a + 1) else none) ∧
    capOf x.caps 8 = (if x.ty = 'T' then some (x.a + 1, x.d1) else none) ∧
    capOf x.caps 9 = x.params.map (fun _ => (x.d2 + 1, x.size)) ∧
    capOf x.caps 10 = x.ck.map (fun _ => (x.size + 2, x.total)) ∧
    capOf x.caps 11 = some (x.total, x.total) ∧ capOf x.caps 12 = none ∧
    capOf x.caps 13 = some (x.total, x.total) := by
  simp only [caps_eq, capOf_append, capOf_cons, capOf_nil, capOf_toList, capOf_ite, Nat.reduceEqDiff, if_true,
    if_false, Option.none_or, Option.or_none, ite_self, and_self, true_and, and_true]
  -- left over: group 6, which a `T` command does not have
  split
  · rw [h.tsub ‹_›]; rfl
  · rfl

/-! `slN`: the slice of group `N`. -/
theorem sl1 (x : NormCmd) : slice x.render 0 x.p1 = x.lw := by
  have := slice_of_drop x.drop_0
  rwa [Nat.zero_add] at this

theorem sl2 (x : NormCmd) : slice x.render x.p1 x.total = x.nPart ++ x.gPart ++ x.pPart ++ x.ckPart := by
  rw [← x.render_length, slice, List.take_of_length_le (by rw [List.length_drop]; exact Nat.le_refl _), x.drop_p1]
  simp only [gPart, List.append_assoc, List.cons_append]

theorem sl3 (x : NormCmd) {n : Nat} (hl : x.ln = some n) :
    slice x.render (x.p1 + 1) (x.p1 + 1 + (natToText n).length) = natToText n :=
  slice_of_drop (drop_cons (x.drop_ln hl))

theorem sl4 (x : NormCmd) : slice x.render x.a (x.a + 1) = [x.ty] := slice_cons x.drop_a

theorem sl5 (x : NormCmd) : slice x.render (x.a + 1) x.d1 = natToText x.code := slice_of_drop x.drop_a1

theorem sl6 (x : NormCmd) {sc : Nat} (hs : x.sub = some sc) : slice x.render (x.d1 + 1) x.d2 = natToText sc := by
  rw [← x.d2_sub hs]; exact slice_of_drop (drop_cons (x.drop_sub hs))

theorem sl9 (x : NormCmd) {ps : Text} (hp : x.params = some ps) : slice x.render (x.d2 + 1) x.size = ps := by
  rw [← x.size_params hp]; exact slice_of_drop (drop_cons (x.drop_params hp))

theorem sl10 (x : NormCmd) {cs : Nat} (hc : x.ck = some cs) : slice x.render (x.size + 2) x.total = natToText cs := by
  rw [← x.total_ck hc]; exact slice_of_drop (drop_cons (drop_cons (x.drop_ck hc)))

theorem upperC_ty (x : NormCmd) (h : x.WF) : upperC x.ty = x.ty :=
  ty_elim x.ty h.ty (by decide) (by decide) (by decide)

theorem upper_gm (ch : Char) (h : ((GMc.any (CC.test ch)) != false) = true) :
    upperC ch = 'G' ∨ upperC ch = 'M' := by
  simp only [List.any_cons, List.any_nil, Bool.or_false, CC.test, bne_iff_ne, ne_eq, Bool.not_eq_false,
    Bool.or_eq_true, beq_iff_eq] at h
  rcases h with rfl | rfl | rfl | rfl
  · left; decide
  · left; decide
  · right; decide
  · right; decide

theorem upper_t (ch : Char) (h : ((TTc.any (CC.test ch)) != false) = true) : upperC ch = 'T' := by
  simp only [List.any_cons, List.any_nil, Bool.or_false, CC.test, bne_iff_ne, ne_eq, Bool.not_eq_false,
    Bool.or_eq_true, beq_iff_eq] at h
  rcases h with rfl | rfl <;> decide

/-- the text attribute after re-parsing: group 2 without the raw checksum -/
def textOf (x : NormCmd) : Text :=
  x.nPart ++ x.gPart ++ x.pPart ++ (match x.ck with | some _ => [' '] | none => [])

theorem reparse_eq (x : NormCmd) (h : x.WF) :
    ({} : Parser).parse (some x.render) = .ok
      { source := x.render, offset := 0, length := x.total, lineNumber := x.ln, type := some x.ty,
        code := some x.code, subCode := x.sub, parameters := x.params, checksum := x.ck,
        leadingWhitespace := x.lw, text := x.textOf,
        rawChecksum := x.ck.map (fun cs => '*' :: natToText cs),
        trailingWhitespace := [], comment := none, eol := [] } := by
  obtain ⟨g1, g2, g3, g4, g5, g6, g7, g8, g9, g10, g11, g12, g13⟩ := x.capOf_caps h
  have c1 := capText_of g1 x.sl1
  have c2 := capText_of g2 x.sl2
  have c3 := (congrArg (·.map digitsToNat) (capText_opt g3 fun _ hl => x.sl3 hl)).trans (map_digitsToNat_natToText _)
  have c6 := (congrArg (·.map digitsToNat) (capText_opt g6 fun _ hs => x.sl6 hs)).trans (map_digitsToNat_natToText _)
  have c9 : capText x.render x.caps 9 = x.params := by
    rw [capText_opt g9 fun _ hp => x.sl9 hp]; cases x.params <;> rfl
  have c10 : capText x.render x.caps 10 = x.ck.map natToText := capText_opt g10 fun _ hc => x.sl10 hc
  have c11 := capText_of g11 (slice_self x.render x.total)
  have c12 := capText_none (s := x.render) g12
  have c13 := capText_of g13 (slice_self x.render x.total)
  have gm : ({} : Parser).gcodeMatch x.render x.caps 4 =
      { ({} : Parser) with type := some x.ty, code := some x.code, subCode := x.sub } := by
    unfold Parser.gcodeMatch
    by_cases hT : x.ty = 'T'
    · rw [if_pos hT] at g4 g5 g7 g8
      simp only [capText_none (s := x.render) g4, capText_none (s := x.render) g5, capText_of g7 x.sl4,
        capText_of g8 x.sl5, c6, Option.map_some, digitsToNat_natToText, upperC_ty x h]
    · rw [if_neg hT] at g4 g5
      have hne : (natToText x.code).isEmpty = false := by
        cases hh : natToText x.code with
        | nil => exact absurd hh (natToText_ne_nil x.code)
        | cons _ _ => rfl
      simp only [capText_of g4 x.sl4, capText_of g5 x.sl5, c6, hne, List.isEmpty_cons, Bool.false_eq_true, if_false,
        Option.map_some, digitsToNat_natToText, upperC_ty x h]
  rw [show ({} : Parser).parse (some x.render) = ({} : Parser).parse (some x.render) (some 0) from rfl,
    parse_eq {} (match_eval x h), gm, c1, c2, c3, c9, c10, c11, c12, c13]
  cases hc : x.ck with
  | none =>
    simp only [textOf, ckPart, hc, Option.map_none, Option.getD_none, Option.getD_some, Nat.sub_zero,
      List.take_length, List.append_nil]
  | some cs =>
    simp only [textOf, ckPart, hc, Option.map_some, Option.getD_some, digitsToNat_natToText]
    rw [show x.nPart ++ x.gPart ++ x.pPart ++ ' ' :: '*' :: natToText cs =
      (x.nPart ++ x.gPart ++ x.pPart ++ [' ']) ++ '*' :: natToText cs by
        simp only [List.append_assoc, List.cons_append, List.nil_append], take_sub_cons]
    rfl

/-- **re-parsing a normalised command** recovers exactly its parts -/
theorem reparse (x : NormCmd) (h : x.WF) :
    ∃ q, ({} : Parser).parse (some x.render) = .ok q ∧
      q.leadingWhitespace = x.lw ∧ q.lineNumber = x.ln ∧ q.type = some x.ty ∧ q.code = some x.code ∧
      q.subCode = x.sub ∧ q.parameters = x.params ∧ q.checksum = x.ck ∧
      q.rawChecksum = x.ck.map (fun cs => '*' :: natToText cs) ∧
      q.comment = none ∧ q.eol = [] ∧ q.trailingWhitespace = [] ∧
      q.offset = 0 ∧ q.length = x.render.length ∧ q.text = x.textOf :=
  ⟨_, reparse_eq x h, rfl, rfl, rfl, rfl, rfl, rfl, rfl, rfl, rfl, rfl, rfl, rfl, x.render_length.symm, rfl⟩

end NormCmd

namespace C18
open NormCmd

/-- the parts of a parser state that `commandString` renders -/
def normOf (p : Parser) (ty : Char) (code : Nat) : NormCmd :=
  ⟨p.leadingWhitespace, p.lineNumber, ty, code, p.subCode, p.parameters, none⟩

theorem commandString_eq_render (p : Parser) (ty : Char) (code : Nat)
    (hty : p.type = some ty) (hc : p.code = some code) :
    p.commandString = (normOf p ty code).render := by
  unfold Parser.commandString Parser.stringify Parser.gcode
  -- the pieces `stringify` joins depend on which optional parts are there; each case is one concatenation
  cases hl : p.lineNumber <;> cases hs : p.subCode <;> cases hp : p.parameters <;>
    simp only [hty, hc, hl, hs, hp, normOf, render, nPart, gPart, subPart, pPart, ckPart,
      Option.some_beq_some, beq_true, Bool.false_eq_true, Bool.false_and, if_true, if_false,
      List.intercalate, List.intersperse_cons_cons, List.intersperse_singleton, List.flatten_cons,
      List.flatten_nil, List.cons_append, List.nil_append, List.append_nil, List.append_assoc]

/-- with a line number `stringify(includeComment=False, includeEol=False)` appends separator and
checksum to what `commandString` renders; `R`, the join of the pieces, is fixed by `rfl` in `h1`: no
case distinction on the parts is needed -/
theorem stringify_ck (p : Parser) (n : Nat) (ty : Char) (code : Nat)
    (hln : p.lineNumber = some n) (hty : p.type = some ty) (hc : p.code = some code) :
    ∃ R, p.commandString = p.leadingWhitespace ++ R ∧
      p.stringify (includeComment := false) (includeEol := false) =
        p.leadingWhitespace ++ R ++ ' ' :: '*' :: natToText (computeChecksum (R ++ [' '])) := by
  unfold Parser.commandString Parser.stringify Parser.gcode
  simp only [hty, hc, hln]
  refine ⟨?R, ?h1, ?h2⟩
  case h1 =>
    simp only [if_true, show (some false == some true) = false from rfl, Bool.false_eq_true, if_false,
      Bool.false_and, List.append_nil]
    exact rfl
  · simp only [if_true, show (some true == some true) = true from rfl, Bool.false_and, Bool.false_eq_true, if_false,
      List.append_nil, List.append_assoc, List.cons_append, List.nil_append]

end C18
end ERP
