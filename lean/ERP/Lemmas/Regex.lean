import ERP.Lemmas.RegexLogic
/-! # Which match comes first: repetition over a character class

A greedy star over a character class returns the continuation's result at the last position of the
maximal run (`ClsRun`, `span`) where the continuation succeeds, a lazy repetition at the first.
Exactness needs no induction of its own: completeness (`star_reach`, `lazyG_reach`) gives a result,
the inversion (`starG_spec`, `lazyG_spec`) says it can only be that one.  `span` is also used by
the reference reading `Spec/Reader.lean`, so no Mathlib here. -/
namespace ERP.Rx

theorem run_tail {P : Nat → Prop} {p q : Nat} (h : ∀ i, p ≤ i → i < q → P i) :
    ∀ i, p + 1 ≤ i → i < q → P i :=
  fun i h1 h2 => h i (Nat.le_of_succ_le h1) h2

theorem run_cons {P : Nat → Prop} {p q : Nat} (hp : P p) (h : ∀ i, p + 1 ≤ i → i < q → P i) :
    ∀ i, p ≤ i → i < q → P i :=
  fun i h1 h2 => (Nat.eq_or_lt_of_le h1).elim (fun e => e ▸ hp) fun h1' => h i h1' h2

/-- a regex that consumes exactly one character where `ok` holds and fails elsewhere -/
def OneStep (ctx : Ctx) (r : Re) (ok : Nat → Bool) : Prop :=
  ∀ {R : Type} (p : Nat) (c : Caps) (k : Nat → Caps → Option R),
    m ctx r p c k = if ok p then k (p + 1) c else none

theorem oneStep_chars (ctx : Ctx) (neg : Bool) (items : List CC) :
    OneStep ctx (.chars neg items) (passes ctx neg items) := fun p c k => m_chars ctx p c k neg items

/-- one more round of a one-character body: the empty-iteration guard never fires -/
theorem repMore_oneStep {R : Type} {ctx : Ctx} {r : Re} {ok : Nat → Bool} (hr : OneStep ctx r ok) (g : Bool)
    (lo f n p : Nat) (c : Caps) (k : Nat → Caps → Option R) :
    repMore (m ctx r) g lo none f n p c k =
      if ok p then repLoop (m ctx r) g lo none f (n + 1) (p + 1) c k else none := by
  simp only [repMore, canMore, if_true, hr p c, succ_beq, Bool.false_and, Bool.false_eq_true, if_false]

theorem star_reach {R : Type} (ctx : Ctx) (g neg : Bool) (items : List CC) (hi : Option Nat) (hhi : hi = none)
    (k : Nat → Caps → Option R) (c : Caps) (p' : Nat) (hk : (k p' c).isSome) :
    ∀ fuel n p, p ≤ p' → p' - p < fuel → (∀ i, p ≤ i → i < p' → passes ctx neg items i = true) →
      (repLoop (m ctx (.chars neg items)) g 0 hi fuel n p c k).isSome := by
  subst hhi
  intro fuel
  induction fuel with
  | zero => exact fun n p _ h => absurd h (Nat.not_lt_zero _)
  | succ f ih =>
    intro n p hpp hf hall
    rw [repLoop_succ, if_neg (Nat.not_lt_zero n)]
    rcases Nat.eq_or_lt_of_le hpp with hpe | hlt
    · subst hpe
      exact orElse'_either g (.inr hk)
    · have hmore : (repMore (m ctx (.chars neg items)) g 0 none f n p c k).isSome := by
        rw [repMore_oneStep (oneStep_chars ctx neg items), if_pos (hall p (Nat.le_refl _) hlt)]
        exact ih (n + 1) (p + 1) hlt (by omega) (run_tail hall)
      exact orElse'_either g (.inl hmore)

theorem some_star {R : Type} (ctx : Ctx) (g neg : Bool) (items : List CC)
    (k : Nat → Caps → Option R) (c : Caps) (p p' : Nat) (hpp : p ≤ p') (hp' : p' ≤ ctx.s.size)
    (hall : ∀ i, p ≤ i → i < p' → passes ctx neg items i = true) (hk : (k p' c).isSome) :
    (m ctx (.rep g 0 none (.chars neg items)) p c k).isSome :=
  star_reach ctx g neg items none rfl k c p' hk _ 0 p hpp (by omega) hall

/-- a maximal run `[p, e)` of a class -/
structure ClsRun (ctx : Ctx) (neg : Bool) (items : List CC) (p e : Nat) : Prop where
  le : p ≤ e
  inside : e ≤ ctx.s.size
  all : ∀ i, p ≤ i → i < e → passes ctx neg items i = true
  stop : passes ctx neg items e = false

section
variable {ctx : Ctx} {neg : Bool} {items : List CC} {p e : Nat}

theorem ClsRun.nil (hp : p ≤ ctx.s.size) (h : passes ctx neg items p = false) : ClsRun ctx neg items p p :=
  ⟨Nat.le_refl _, hp, fun _ h1 h2 => absurd h2 (Nat.not_lt.mpr h1), h⟩

theorem run_le_size (hp : p ≤ ctx.s.size) (hle : p ≤ e)
    (hall : ∀ i, p ≤ i → i < e → passes ctx neg items i = true) : e ≤ ctx.s.size := by
  rcases Nat.eq_or_lt_of_le hle with h | h
  · exact h ▸ hp
  · exact Nat.le_of_pred_lt
      (passes_lt (hall (e - 1) (Nat.le_sub_one_of_lt h) (Nat.sub_one_lt (Nat.ne_of_gt (Nat.zero_lt_of_lt h)))))

theorem ClsRun.of_stop (hp : p ≤ ctx.s.size) (hle : p ≤ e)
    (hall : ∀ i, p ≤ i → i < e → passes ctx neg items i = true) (hstop : passes ctx neg items e = false) :
    ClsRun ctx neg items p e :=
  ⟨hle, run_le_size hp hle hall, hall, hstop⟩

theorem ClsRun.cons (h : passes ctx neg items p = true) (hr : ClsRun ctx neg items (p + 1) e) :
    ClsRun ctx neg items p e :=
  ⟨Nat.le_of_succ_le hr.le, hr.inside,
    run_cons h hr.all, hr.stop⟩

theorem ClsRun.tail (h : passes ctx neg items p = true) (hr : ClsRun ctx neg items p e) :
    ClsRun ctx neg items (p + 1) e :=
  ⟨Nat.lt_of_le_of_ne hr.le fun he => by have := hr.stop; rw [← he, h] at this; exact Bool.noConfusion this,
    hr.inside, run_tail hr.all, hr.stop⟩

theorem ClsRun.bound (hr : ClsRun ctx neg items p e) {q : Nat}
    (hq : ∀ i, p ≤ i → i < q → passes ctx neg items i = true) : q ≤ e :=
  Nat.not_lt.mp fun h => by have := hq e hr.le h; rw [hr.stop] at this; cases this

theorem ClsRun.unique {e' : Nat} (h : ClsRun ctx neg items p e) (h' : ClsRun ctx neg items p e') : e = e' :=
  Nat.le_antisymm (h'.bound h.all) (h.bound h'.all)
end

/-- first position at or after `p` where the class test fails (fuel-bounded) -/
def spanEnd (ctx : Ctx) (neg : Bool) (items : List CC) : Nat → Nat → Nat
  | 0, p => p
  | f+1, p => if passes ctx neg items p then spanEnd ctx neg items f (p+1) else p

/-- end of the maximal run of the class starting at `p` -/
def span (ctx : Ctx) (neg : Bool) (items : List CC) (p : Nat) : Nat :=
  spanEnd ctx neg items (ctx.s.size - p + 1) p

theorem spanEnd_run (ctx : Ctx) (neg : Bool) (items : List CC) :
    ∀ f p, ctx.s.size - p < f → p ≤ ctx.s.size → ClsRun ctx neg items p (spanEnd ctx neg items f p) := by
  intro f
  induction f with
  | zero => intro p h; exact absurd h (Nat.not_lt_zero _)
  | succ f ih =>
    intro p hf hp
    rw [spanEnd]
    by_cases h : passes ctx neg items p = true
    · rw [if_pos h]; have := passes_lt h; exact .cons h (ih (p + 1) (by omega) (by omega))
    · rw [if_neg h]; exact .nil hp (Bool.eq_false_iff.mpr h)

theorem span_run {ctx : Ctx} {p : Nat} (hp : p ≤ ctx.s.size) (neg : Bool) (items : List CC) :
    ClsRun ctx neg items p (span ctx neg items p) := spanEnd_run ctx neg items _ p (by omega) hp

theorem ClsRun.span_eq {ctx : Ctx} {neg : Bool} {items : List CC} {p e : Nat} (h : ClsRun ctx neg items p e) :
    span ctx neg items p = e := (span_run (Nat.le_trans h.le h.inside) neg items).unique h

section
variable {ctx : Ctx} {neg : Bool} {items : List CC} {p : Nat}

theorem span_of_stop (h : passes ctx neg items p = false) : span ctx neg items p = p := by
  rw [span, spanEnd, h]; rfl

theorem span_of_pass (h : passes ctx neg items p = true) : span ctx neg items p = span ctx neg items (p+1) :=
  (ClsRun.cons h (span_run (passes_lt h) neg items)).span_eq

theorem span_gt_of_pass (h : passes ctx neg items p = true) : p < span ctx neg items p := by
  rw [span_of_pass h]; exact (span_run (passes_lt h) neg items).le
end

/-- `span_run` without naming the position -/
theorem exists_stop (ctx : Ctx) (neg : Bool) (items : List CC) :
    ∀ d p, ctx.s.size - p = d → p ≤ ctx.s.size →
      ∃ p', p ≤ p' ∧ p' ≤ ctx.s.size ∧ (∀ i, p ≤ i → i < p' → passes ctx neg items i = true) ∧
        passes ctx neg items p' = false :=
  fun _ _ _ hp => let h := span_run hp neg items; ⟨_, h.le, h.inside, h.all, h.stop⟩

/-- greedy star over a character class, as a plain recursive function -/
def starG {R : Type} (ctx : Ctx) (neg : Bool) (items : List CC) (k : Nat → Caps → Option R) (c : Caps) :
    Nat → Nat → Option R
  | 0, p => k p c
  | f+1, p =>
    if passes ctx neg items p then orElse' (starG ctx neg items k c f (p+1)) (fun _ => k p c) else k p c

section
variable {R : Type} (ctx : Ctx) (neg : Bool) (items : List CC) (k : Nat → Caps → Option R) (c : Caps)

theorem repLoop_eq_starG (lo : Nat) :
    ∀ f n p, lo ≤ n →
      repLoop (m ctx (.chars neg items)) true lo none f n p c k = starG ctx neg items k c f p := by
  intro f
  induction f with
  | zero => intro n p _; rfl
  | succ f ih =>
    intro n p hn
    rw [repLoop_succ, if_neg (Nat.not_lt.mpr hn), if_pos rfl, starG, repMore_oneStep (oneStep_chars ctx neg items),
      ih (n+1) (p+1) (Nat.le_succ_of_le hn)]
    split <;> rfl

/-- (the fuel is `m_rep`'s: the `+ 0` is the lower bound `lo`) -/
theorem m_star_eq (p : Nat) :
    m ctx (.rep true 0 none (.chars neg items)) p c k = starG ctx neg items k c (ctx.s.size + 2 - p + 0) p :=
  repLoop_eq_starG ctx neg items k c 0 _ 0 p (Nat.le_refl _)

theorem m_plus_eq (p : Nat) :
    m ctx (.rep true 1 none (.chars neg items)) p c k =
      if passes ctx neg items p then starG ctx neg items k c (ctx.s.size + 2 - p) (p+1) else none := by
  rw [m_rep, repLoop_succ, if_pos Nat.zero_lt_one, repMore_oneStep (oneStep_chars ctx neg items),
    repLoop_eq_starG ctx neg items k c 1 _ 1 (p+1) (Nat.le_refl _)]

theorem starG_stop (f p : Nat) (h : passes ctx neg items p = false) : starG ctx neg items k c f p = k p c := by
  cases f with
  | zero => rfl
  | succ f => rw [starG, h]; rfl

theorem starG_none :
    ∀ f p, starG ctx neg items k c f p = none →
      ∀ q', p ≤ q' → q' ≤ p + f → (∀ i, p ≤ i → i < q' → passes ctx neg items i = true) → k q' c = none := by
  intro f
  induction f with
  | zero => exact fun p h q' h1 h2 _ => Nat.le_antisymm h2 h1 ▸ h
  | succ f ih =>
    intro p h q' h1 h2 hall
    rw [starG] at h
    rcases Nat.eq_or_lt_of_le h1 with rfl | hlt
    · -- at `p` itself: whichever branch was taken ended in `k p c`
      by_cases hp : passes ctx neg items p = true
      · rw [if_pos hp] at h
        cases hs : starG ctx neg items k c f (p+1) with
        | some r => rw [hs] at h; cases h
        | none => rwa [hs, orElse'_none] at h
      · rwa [if_neg hp] at h
    · have hp := hall p (Nat.le_refl _) hlt
      rw [if_pos hp] at h
      cases hs : starG ctx neg items k c f (p+1) with
      | some r => rw [hs] at h; cases h
      | none => exact ih (p+1) hs q' hlt (by rw [Nat.add_right_comm]; exact h2) (run_tail hall)

/-- **what a greedy star returns**: the continuation's result at the *last* position of the run
where it succeeds -/
theorem starG_spec {R : Type} (ctx : Ctx) (neg : Bool) (items : List CC) (k : Nat → Caps → Option R) (c : Caps)
    (res : R) :
    ∀ f p, starG ctx neg items k c f p = some res →
      ∃ q, p ≤ q ∧ (∀ i, p ≤ i → i < q → passes ctx neg items i = true) ∧ k q c = some res ∧
        ∀ q', q < q' → q' ≤ p + f → (∀ i, p ≤ i → i < q' → passes ctx neg items i = true) → k q' c = none := by
  intro f
  induction f with
  | zero =>
    intro p h
    exact ⟨p, Nat.le_refl _, fun i h1 h2 => absurd h2 (Nat.not_lt.mpr h1), h,
      fun q' h1 h2 _ => absurd h1 (Nat.not_lt.mpr h2)⟩
  | succ f ih =>
    intro p h
    rw [starG] at h
    by_cases hp : passes ctx neg items p = true
    · rw [if_pos hp] at h
      cases hs : starG ctx neg items k c f (p+1) with
      | some r =>
        rw [hs] at h
        cases h
        obtain ⟨q, h1, h2, h3, h4⟩ := ih (p+1) hs
        refine ⟨q, Nat.le_of_succ_le h1, run_cons hp h2, h3, fun q' hq1 hq2 hall => ?_⟩
        exact h4 q' hq1 (by rw [Nat.add_right_comm]; exact hq2) (run_tail hall)
      | none =>
        -- the star went on and failed everywhere beyond `p`: the result is the continuation's at `p`
        rw [hs, orElse'_none] at h
        refine ⟨p, Nat.le_refl _, fun i h1 h2 => absurd h2 (Nat.not_lt.mpr h1), h, fun q' hq1 hq2 hall => ?_⟩
        exact starG_none ctx neg items k c f (p+1) hs q' hq1 (by rw [Nat.add_right_comm]; exact hq2) (run_tail hall)
    · rw [if_neg hp] at h
      exact ⟨p, Nat.le_refl _, fun i h1 h2 => absurd h2 (Nat.not_lt.mpr h1), h,
        fun q' hq1 _ hall => absurd (hall p (Nat.le_refl _) hq1) hp⟩

variable {ctx neg items k c}

/-- exactness: a result by `star_reach`, the one at `q` by `starG_spec` -/
theorem starG_last {p e q f : Nat} {r : R} (hr : ClsRun ctx neg items p e) (hf : e - p < f) (hpq : p ≤ q)
    (hqe : q ≤ e) (hk : k q c = some r) (hlast : ∀ q', q < q' → q' ≤ e → k q' c = none) :
    starG ctx neg items k c f p = some r := by
  have hqf : q - p < f := Nat.lt_of_le_of_lt (Nat.sub_le_sub_right hqe p) hf
  have hq : q ≤ p + f := by omega
  have hrun : ∀ i, p ≤ i → i < q → passes ctx neg items i = true :=
    fun i h1 h2 => hr.all i h1 (Nat.lt_of_lt_of_le h2 hqe)
  have hs := star_reach ctx true neg items none rfl k c q (by rw [hk]; rfl) f 0 p hpq hqf hrun
  rw [repLoop_eq_starG ctx neg items k c 0 f 0 p (Nat.le_refl _)] at hs
  obtain ⟨res, hres⟩ := Option.isSome_iff_exists.mp hs
  obtain ⟨q0, h1, h2, h3, h4⟩ := starG_spec ctx neg items k c res _ _ hres
  rcases Nat.lt_trichotomy q0 q with h | h | h
  · have := h4 q h hq hrun
    rw [hk] at this
    cases this
  · rw [hres, ← h3, h, hk]
  · have := hlast q0 h (hr.bound h2)
    rw [h3] at this
    cases this

theorem m_star_last {p e q : Nat} {r : R} (hr : ClsRun ctx neg items p e) (hpq : p ≤ q) (hqe : q ≤ e)
    (hk : k q c = some r) (hlast : ∀ q', q < q' → q' ≤ e → k q' c = none) :
    m ctx (.rep true 0 none (.chars neg items)) p c k = some r := by
  have hf : e - p < ctx.s.size + 2 - p + 0 := by have := hr.inside; omega
  rw [m_star_eq]
  exact starG_last hr hf hpq hqe hk hlast

theorem m_star_max {p e : Nat} {r : R} (hr : ClsRun ctx neg items p e) (hk : k e c = some r) :
    m ctx (.rep true 0 none (.chars neg items)) p c k = some r :=
  m_star_last hr hr.le (Nat.le_refl _) hk fun _ h1 h2 => absurd h1 (Nat.not_lt.mpr h2)

theorem m_star_max_eq {p e : Nat} (hr : ClsRun ctx neg items p e) (hk : (k e c).isSome = true) :
    m ctx (.rep true 0 none (.chars neg items)) p c k = k e c := by
  obtain ⟨r, h⟩ := Option.isSome_iff_exists.mp hk
  rw [h]; exact m_star_max hr h

/-- the continuation fails at the end of the run and succeeds one character earlier -/
theorem m_star_second {p e : Nat} {r : R} (hr : ClsRun ctx neg items p e) (hlt : p < e)
    (hk0 : k e c = none) (hk : k (e - 1) c = some r) :
    m ctx (.rep true 0 none (.chars neg items)) p c k = some r :=
  m_star_last hr (Nat.le_sub_one_of_lt hlt) (Nat.sub_le e 1) hk fun _ h1 h2 =>
    Nat.le_antisymm h2 (Nat.le_of_pred_lt h1) ▸ hk0

theorem m_star_empty {p : Nat} (h : passes ctx neg items p = false) : m ctx (.rep true 0 none (.chars neg items)) p c k = k p c := by
  rw [m_star_eq]; exact starG_stop ctx neg items k c _ p h

theorem m_plus_max {p e : Nat} {r : R} (hp : passes ctx neg items p = true) (hr : ClsRun ctx neg items p e)
    (hk : k e c = some r) : m ctx (.rep true 1 none (.chars neg items)) p c k = some r := by
  have hr1 := hr.tail hp
  rw [m_plus_eq, if_pos hp]
  have hf : e - (p + 1) < ctx.s.size + 2 - p := by have := hr.inside; have := hr.le; omega
  exact starG_last hr1 hf hr1.le (Nat.le_refl _) hk fun q' h1 h2 => absurd h1 (Nat.not_lt.mpr h2)

theorem wp_star {p : Nat} {Q : Nat → Caps → Prop}
    (h : ∀ p', p ≤ p' → (∀ i, p ≤ i → i < p' → passes ctx neg items i = true) → Q p' c) :
    WP ctx (.rep true 0 none (.chars neg items)) p c Q := by
  intro R k res hm
  rw [m_star_eq] at hm
  obtain ⟨q, h1, h2, h3, -⟩ := starG_spec ctx neg items k c res _ _ hm
  exact ⟨q, c, h q h1 h2, h3⟩

/-- (only the next position fails: all that `restA_plain` needs) -/
theorem m_star_inversion {p : Nat} {res : R} (hp : p ≤ ctx.s.size)
    (h : m ctx (.rep true 0 none (.chars neg items)) p c k = some res) :
    ∃ q, p ≤ q ∧ q ≤ ctx.s.size ∧ (∀ i, p ≤ i → i < q → passes ctx neg items i = true) ∧ k q c = some res ∧
      (passes ctx neg items q = true → k (q + 1) c = none) := by
  rw [m_star_eq] at h
  obtain ⟨q, h1, h2, h3, h4⟩ := starG_spec ctx neg items k c res _ _ h
  refine ⟨q, h1, run_le_size hp h1 h2, h2, h3, fun hpass => h4 (q + 1) (Nat.lt_succ_self q) ?_ fun i hi1 hi2 => ?_⟩
  · have := passes_lt hpass
    omega
  · exact (Nat.eq_or_lt_of_le (Nat.le_of_lt_succ hi2)).elim (· ▸ hpass) (h2 i hi1)

theorem m_star_back {p : Nat} (hp : passes ctx neg items p = true)
    (h : (m ctx (.rep true 0 none (.chars neg items)) (p + 1) c k).isSome) :
    (m ctx (.rep true 0 none (.chars neg items)) p c k).isSome := by
  obtain ⟨res, hres⟩ := Option.isSome_iff_exists.mp h
  obtain ⟨q, h1, hq, h2, h3, -⟩ := m_star_inversion (passes_lt hp) hres
  exact some_star ctx true neg items k c p q (Nat.le_of_succ_le h1) hq (run_cons hp h2) (by rw [h3]; rfl)

theorem wp_plus {p : Nat} {Q : Nat → Caps → Prop}
    (h : ∀ p', p < p' → p' ≤ ctx.s.size → Q p' c) : WP ctx (.rep true 1 none (.chars neg items)) p c Q := by
  intro R k res hm
  rw [m_plus_eq] at hm
  by_cases hp : passes ctx neg items p = true
  · rw [if_pos hp] at hm
    obtain ⟨q, h1, h2, h3, -⟩ := starG_spec ctx neg items k c res _ _ hm
    have hq : q ≤ ctx.s.size := run_le_size (passes_lt hp) h1 h2
    exact ⟨q, c, h q h1 hq, h3⟩
  · rw [if_neg hp] at hm
    cases hm
end

/-- lazy one-or-more of a one-character body: the continuation is tried after 1, 2, 3 …
characters; the first success wins -/
def lazyG {R : Type} (ok : Nat → Bool) (k : Nat → Caps → Option R) (c : Caps) : Nat → Nat → Option R
  | 0, p => k p c
  | f+1, p => orElse' (k p c) (fun _ => if ok p then lazyG ok k c f (p + 1) else none)

theorem lazyG_congr {R : Type} {ok : Nat → Bool} {k k' : Nat → Caps → Option R} {c : Caps} :
    ∀ f p, (∀ p', p ≤ p' → k p' c = k' p' c) → lazyG ok k c f p = lazyG ok k' c f p := by
  intro f
  induction f with
  | zero => exact fun p h => h p (Nat.le_refl _)
  | succ f ih =>
    intro p h
    rw [lazyG, lazyG, h p (Nat.le_refl _), ih (p + 1) fun p' hp' => h p' (Nat.le_of_succ_le hp')]

theorem repLoop_eq_lazyG {R : Type} (ctx : Ctx) (r : Re) (ok : Nat → Bool) (hr : OneStep ctx r ok) (lo : Nat)
    (k : Nat → Caps → Option R) (c : Caps) :
    ∀ f n p, lo ≤ n → repLoop (m ctx r) false lo none f n p c k = lazyG ok k c f p := by
  intro f
  induction f with
  | zero => intro n p _; rfl
  | succ f ih =>
    intro n p hn
    rw [repLoop_succ, if_neg (Nat.not_lt.mpr hn), if_neg Bool.false_ne_true, lazyG, repMore_oneStep hr,
      ih (n+1) (p+1) (Nat.le_succ_of_le hn)]

theorem m_lazyplus_eq {R : Type} (ctx : Ctx) (r : Re) (ok : Nat → Bool) (hr : OneStep ctx r ok) (p : Nat) (c : Caps)
    (k : Nat → Caps → Option R) :
    m ctx (.rep false 1 none r) p c k = if ok p then lazyG ok k c (ctx.s.size + 2 - p) (p + 1) else none := by
  rw [m_rep, repLoop_succ, if_pos Nat.zero_lt_one, repMore_oneStep hr,
    repLoop_eq_lazyG ctx r ok hr 1 k c _ 1 (p+1) (Nat.le_refl _)]

/-- the lazy loop: its result is the continuation's at the *first* position where it succeeds -/
theorem lazyG_spec {R : Type} (ok : Nat → Bool) (k : Nat → Caps → Option R) (c : Caps) (res : R) :
    ∀ f p, lazyG ok k c f p = some res →
      ∃ e, p ≤ e ∧ (∀ i, p ≤ i → i < e → ok i = true ∧ k i c = none) ∧ k e c = some res := by
  intro f
  induction f with
  | zero => exact fun p h => ⟨p, Nat.le_refl _, fun i h1 h2 => absurd h2 (Nat.not_lt.mpr h1), h⟩
  | succ f ih =>
    intro p h
    rw [lazyG] at h
    cases hk : k p c with
    | some r =>
      rw [hk] at h
      exact ⟨p, Nat.le_refl _, fun i h1 h2 => absurd h2 (Nat.not_lt.mpr h1), hk.trans h⟩
    | none =>
      rw [hk, orElse'_none] at h
      by_cases hp : ok p = true
      · rw [if_pos hp] at h
        obtain ⟨e, h1, h2, h3⟩ := ih (p+1) h
        exact ⟨e, Nat.le_of_succ_le h1, run_cons ⟨hp, hk⟩ h2, h3⟩
      · rw [if_neg hp] at h; cases h

theorem lazyG_reach {R : Type} (ok : Nat → Bool) (k : Nat → Caps → Option R) (c : Caps) (e : Nat)
    (hk : (k e c).isSome) :
    ∀ f p, p ≤ e → e - p ≤ f → (∀ i, p ≤ i → i < e → ok i = true) → (lazyG ok k c f p).isSome := by
  intro f
  induction f with
  | zero => exact fun p h1 h2 _ => Nat.le_antisymm h1 (Nat.le_of_sub_eq_zero (Nat.le_zero.mp h2)) ▸ hk
  | succ f ih =>
    intro p h1 h2 hall
    rw [lazyG, orElse'_isSome]
    rcases Nat.eq_or_lt_of_le h1 with rfl | hlt
    · rw [hk]
      rfl
    · rw [if_pos (hall p (Nat.le_refl _) hlt), ih (p+1) hlt (by omega) (run_tail hall), Bool.or_true]

theorem lazyG_first {R : Type} (ok : Nat → Bool) (k : Nat → Caps → Option R) (c : Caps) (p' : Nat) (res : R)
    (hk : k p' c = some res) (f p : Nat) (hpp : p ≤ p') (hf : p' - p < f)
    (hall : ∀ i, p ≤ i → i < p' → ok i = true ∧ k i c = none) : lazyG ok k c f p = some res := by
  obtain ⟨r, hr⟩ := Option.isSome_iff_exists.mp
    (lazyG_reach ok k c p' (by rw [hk]; rfl) f p hpp (by omega) fun i h1 h2 => (hall i h1 h2).1)
  obtain ⟨e, h1, h2, h3⟩ := lazyG_spec ok k c r f p hr
  rcases Nat.lt_trichotomy e p' with h | h | h
  · rw [(hall e h1 h).2] at h3; cases h3
  · rw [hr, ← h3, h, hk]
  · rw [(h2 p' hpp h).2] at hk; cases hk

end ERP.Rx
