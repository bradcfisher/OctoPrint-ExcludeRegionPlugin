import ERP.Lemmas.Refine
/-! # The retraction branches of `processLinearMoves` in normal form

What `recordRetraction`, `recoverRetractionIfNeeded` and the bodies built on them return, case by
case, as equations between filter states and command lists, read off the eliminators of
`Lemmas/Moves`. No printer is mentioned: the extruder invariant reads off these equations what
reaches the printer. Where a position is said to be unchanged the E axis must be known (`AxisOk`):
`_addCommands` moves it forth and back.  The `combined` and `closed` cases of
`recordRetraction_cases` have no normal form here: under the protocol a retraction arrives with
the file unretracted, so a record that is present is owed (`retractBranch_estep`, `g10_einv`). -/
namespace ERP
open T

variable {α : Type} [Field α] [LinearOrder α]

theorem recordRetraction_owed (s : FState α) (r l : Retraction α) (hl : s.lastRetraction = some l)
    (ho : l.recoverExcluded = true) :
    T.recordRetraction s r =
      ({ s with lastRetraction := some (if !l.firmwareRetract
          then { l with recoverExcluded := false, feedRate := some s.feedRate }
          else { l with recoverExcluded := false }) }, []) := by
  exact recordRetraction_cases (motive := fun p => p = _) s r
    (fresh := fun h => nomatch hl.symm.trans h)
    (combined := fun lr h ho' _ => by cases hl.symm.trans h; cases ho.symm.trans ho')
    (owed := fun lr h _ => by cases hl.symm.trans h; rfl)
    (closed := fun lr h ho' _ => by cases hl.symm.trans h; cases ho.symm.trans ho')

theorem retractBranch_owed (s : FState α) (r l : Retraction α) (hl : s.lastRetraction = some l)
    (ho : l.recoverExcluded = true) :
    retractBranch s r =
      ({ s with lastRetraction := some (if !l.firmwareRetract
          then { l with recoverExcluded := false, feedRate := some s.feedRate }
          else { l with recoverExcluded := false }) },
        if s.excluding then [] else [.g92e (n2l s.position.e)]) := by
  unfold retractBranch
  rw [recordRetraction_owed s r l hl ho]
  cases s.excluding <;> rfl

/-- inside an episode nothing is sent; the record is closed, and a skipped recovery command
becomes owed -/
theorem recoverIfNeeded_inside (s : FState α) (cmd : Cmd α) (b : Bool) (hex : s.excluding = true) :
    T.recoverRetractionIfNeeded s cmd b =
      ({ s with lastRetraction := s.lastRetraction.map fun lr =>
          { lr with allowCombine := false, recoverExcluded := b || lr.recoverExcluded } }, []) := by
  refine recoverIfNeeded_cases (motive := fun p => p = _) s cmd b (fun hl => ?_)
    (fun _ lr hl => ?_) (fun hx => absurd (hx.symm.trans hex) Bool.noConfusion)
    (fun hx => absurd (hx.symm.trans hex) Bool.noConfusion)
  · -- nothing is recorded, so updating the record changes nothing
    have e : ∀ f : Retraction α → Retraction α, s.lastRetraction.map f = s.lastRetraction :=
      fun f => by rw [hl]; rfl
    rw [e, if_pos hex]
  · rw [hl]
    cases b <;> rfl

theorem processExcludedMove_nonneg (cfg : Config) (s : FState α) (cmd : Cmd α) (dE : α)
    (h : 0 ≤ dE) :
    T.processExcludedMove cfg s cmd dE =
      if s.excluding then (s, [])
      else ({ s with excluding := true, lastPosition := some s.position }, C06.enterLines cfg) := by
  rw [processExcludedMove_eq, ← enterExcludedRegion_eq]
  exact if_neg (not_lt.mpr h)

theorem recordRetraction_fresh (s : FState α) (r : Retraction α) (hok : AxisOk s.position.e)
    (hl : s.lastRetraction = none) :
    T.recordRetraction s r = ({ s with lastRetraction := some r },
      if s.excluding then (T.addCommands r 1 s.position).2 else [.orig r.originalCommand]) := by
  refine recordRetraction_cases (motive := fun p => p = _) s r (fun _ => ?_)
    (fun lr h' => nomatch hl.symm.trans h') (fun lr h' => nomatch hl.symm.trans h')
    (fun lr h' => nomatch hl.symm.trans h')
  unfold storeRetraction
  cases s.excluding
  · rfl
  · rw [addCommands_pos_id r 1 s.position hok]
    rfl

theorem retractBranch_fresh (s : FState α) (r : Retraction α) (hok : AxisOk s.position.e)
    (hl : s.lastRetraction = none) :
    retractBranch s r = ({ s with lastRetraction := some r },
      if s.excluding then (T.addCommands r 1 s.position).2 else [.orig r.originalCommand]) := by
  unfold retractBranch
  rw [recordRetraction_fresh s r hok hl]
  cases s.excluding
  · rfl
  · simp only [Bool.not_true, Bool.and_false, Bool.false_eq_true, if_false]

theorem recoverBranch_outside (s : FState α) (cmd : Cmd α) (b : Bool) (pE : α)
    (hok : AxisOk s.position.e) (hex : s.excluding = false) :
    recoverBranch s cmd b pE =
      ({ s with lastRetraction := none }, recoverPre s pE ++ [.orig cmd]) := by
  refine Prod.ext ?_ (recoverBranch_snd s cmd b pE hex)
  rw [recoverBranch_fst]
  refine recoverIfNeeded_cases (motive := fun p => p.1 = { s with lastRetraction := none }) s cmd b
    (fun hl => by rw [← hl]) (fun hx => absurd (hex ▸ hx) Bool.false_ne_true)
    (fun _ lr _ _ => ?_) (fun _ _ _ _ => rfl)
  rw [addCommands_pos_id lr (-1) s.position hok]

end ERP
