import ERP.Lemmas.Moves
/-! # Control state after a command

`plm_ctrl`: `plm_touch` field by field; `handleGcode_cases`; `lastPosition_kept`. -/
namespace ERP

section
variable {α : Type}

/-- what a `processLinearMoves` call does to the control state, given whether the command is a move
and whether it hits -/
structure CtrlSpec (s s' : FState α) (isMove hit : Bool) : Prop where
  regions : s'.excludedRegions = s.excludedRegions
  enabled : s'.exclusionEnabled = s.exclusionEnabled
  excluding : s'.excluding = if isMove then hit else s.excluding
  lastPos : s'.lastPosition = if hit && !s.excluding then some s.position else s.lastPosition
  pending : s'.pendingCommands = if isMove && !hit && s.excluding then [] else s.pendingCommands

/-- the parts of the control state no command other than a move can change -/
structure SameCtrl (s s' : FState α) : Prop where
  regions : s'.excludedRegions = s.excludedRegions
  enabled : s'.exclusionEnabled = s.exclusionEnabled
  excluding : s'.excluding = s.excluding
  lastPos : s'.lastPosition = s.lastPosition

end

variable {α : Type} [Field α] [LinearOrder α]

theorem ETouch.sameCtrl {s s' : FState α} (h : ETouch s s') : SameCtrl s s' :=
  ⟨h.regions, h.enabled, h.excluding, h.lastPosition⟩

variable [MathOps α]

theorem plm_ctrl (cfg : Config) (s : FState α) (cmd : Cmd α) (ep fr fz : Option α)
    (xy : List (Option α × Option α)) :
    CtrlSpec s (T.processLinearMoves cfg s cmd ep fr fz xy).1 (T.isMoveOf fz xy)
      (hitOf s ep fr fz xy) :=
  have h := plm_touch cfg s cmd ep fr fz xy
  ⟨h.regions, h.enabled, h.excluding, h.lastPosition, h.pending⟩

/-- coarser than `handleGcode_kinds`: every kind but `move` keeps `SameCtrl` -/
theorem handleGcode_cases {motive : FState α × Result α → Prop} (cfg : Config) (inch : α)
    (s : FState α) (g : String) (cmd : Cmd α) (skip : motive (s, .none))
    (move : (Code.ofString g = .G0 ∨ Code.ofString g = .G1 ∨ Code.ofString g = .G2 ∨
      Code.ofString g = .G3) → ∀ ep fr fz xy, motive (T.processLinearMoves cfg s cmd ep fr fz xy))
    (other : ∀ r, SameCtrl s r.1 → motive r) : motive (T.handleGcode cfg inch s g cmd) :=
  handleGcode_kinds cfg inch s g cmd skip move
    (other _ (toResult_fst _ ▸ (recordRetraction_touch s _).sameCtrl))
    (other _ (toResult_fst _ ▸ (recoverIfNeeded_touch s cmd true).sameCtrl))
    (fun _ _ => other _ ⟨rfl, rfl, rfl, rfl⟩)
    (other _ (processExtendedGcode_frame cfg s cmd g ▸ ⟨rfl, rfl, rfl, rfl⟩))

/-- commands other than G0–G3 never open or close an episode -/
theorem nonmove_ctrl (cfg : Config) (inch : α) (s : FState α) (g : String) (cmd : Cmd α)
    (hg : Code.ofString g ≠ .G0 ∧ Code.ofString g ≠ .G1 ∧ Code.ofString g ≠ .G2 ∧
      Code.ofString g ≠ .G3) :
    SameCtrl s (T.handleGcode cfg inch s g cmd).1 :=
  handleGcode_cases (motive := fun r => SameCtrl s r.1) cfg inch s g cmd ⟨rfl, rfl, rfl, rfl⟩
    (fun hc => (hc.elim hg.1 (·.elim hg.2.1 (·.elim hg.2.2.1 hg.2.2.2))).elim) fun _ h => h

theorem lastPosition_kept (cfg : Config) (inch : α) (s : FState α) (g : String) (cmd : Cmd α)
    (hex : s.excluding = true) : (T.handleGcode cfg inch s g cmd).1.lastPosition = s.lastPosition :=
  handleGcode_cases (motive := fun r => r.1.lastPosition = s.lastPosition) cfg inch s g cmd rfl
    (fun _ ep fr fz xy => by
      rw [(plm_ctrl cfg s cmd ep fr fz xy).lastPos, hex, Bool.not_true, Bool.and_false]; rfl)
    (fun _ hr => hr.lastPos)

end ERP
