import ERP.Model.Parser
/-! # What `GcodeParser.parse` returns

`parse_eq`: after a match of the line regex the parser is an explicit record, every attribute
written in terms of the groups.  Parsing forwards (`NormCmd.reparse_eq`) and backwards
(`C18.parse_lossless`, `C18.parse_plain`) both start from it instead of unfolding `parse`. -/
namespace ERP
open ERP.Rx

theorem gcodeMatch_eq (p : Parser) (s : Text) (c : Caps) (i : Nat) : p.gcodeMatch s c i =
    { p with type := (({} : Parser).gcodeMatch s c i).type, code := (({} : Parser).gcodeMatch s c i).code,
             subCode := (({} : Parser).gcodeMatch s c i).subCode } := by
  unfold Parser.gcodeMatch
  extract_lets ty
  clear_value ty
  rcases ty with _ | _ | ⟨t, tl⟩ <;> rfl

theorem parse_eq (p : Parser) {src : Text} {off e : Nat} {c : Caps}
    (hm : matchAt Gen.gcodeLine src.toArray off = some (e, c)) :
    p.parse (some src) (some off) = .ok
      { source := src, offset := off, length := e - off,
        lineNumber := (capText src c 3).map digitsToNat,
        type := (({} : Parser).gcodeMatch src c 4).type,
        code := (({} : Parser).gcodeMatch src c 4).code,
        subCode := (({} : Parser).gcodeMatch src c 4).subCode,
        parameters := capText src c 9,
        checksum := (capText src c 10).map digitsToNat,
        leadingWhitespace := (capText src c 1).getD [],
        text := ((capText src c 2).getD []).take
          (((capText src c 2).getD []).length - ((capText src c 10).map (·.length + 1)).getD 0),
        rawChecksum := (capText src c 10).map ('*' :: ·),
        trailingWhitespace := (capText src c 11).getD [],
        comment := capText src c 12,
        eol := (capText src c 13).getD [] } := by
  -- first: with `parse` unfolded `cases` has to abstract `capText src c 10` all over the record
  cases h10 : capText src c 10
  · simp only [Option.map_none, Option.getD_none, Nat.sub_zero, List.take_length]
    simp only [Parser.parse, Option.getD_some, hm, h10]
    rw [gcodeMatch_eq]
  · simp only [Parser.parse, Option.getD_some, hm, h10]
    rw [gcodeMatch_eq]
    rfl

theorem matchAt_of_parse {p q : Parser} {src : Text} {off : Nat} (h : p.parse (some src) (some off) = .ok q) :
    ∃ e c, matchAt Gen.gcodeLine src.toArray off = some (e, c) := by
  cases hm : matchAt Gen.gcodeLine src.toArray off with
  | none => simp only [Parser.parse, Option.getD_some, hm] at h; cases h
  | some r => exact ⟨r.1, r.2, rfl⟩

end ERP
