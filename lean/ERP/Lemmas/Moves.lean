import ERP.Total
import Mathlib.Algebra.Order.Field.Basic
/-! # What the total filter returns and which parts of the state it touches

Facts about `ERP.T` that need no well-formedness of the state (those needing `AxisOk` alone,
`addCommands_pos_id`, `ETouch.frame`/`.eOk`, `plm_pos`, are in Refine, where `AxisOk` is defined),
and on the functions both models share (`processExtendedGcode*`, `handleG28_eq`,
`setAbsoluteMode_eq`, `disableExclusion_eq`, `addRegion_eq`).
`processLinearMoves` is one equation (`plm_eq`, by cases `plm_cases`), `handleGcode` goes by
kinds (`handleGcode_kinds`); the retraction bookkeeping returns `NonMoveOuts` within `ETouch`.
`namespace C06`: the script and flush lists the `_outs` lemmas name.

Names: `f_eq` the result of `f` in full; `f_fst`, `f_snd`, `f_pos` (`.position`) one component;
`f_frame` `… = { s with a := … }`: only `a` can differ from `s`; `f_touch` `ETouch t (f …).1`, `t`
being `s` or `s` with the control fields `f` sets; `f_outs` the commands returned, of one shape in
`_synth`, `_silent`, `_passes`, `_all`; `f_cases` `f` case by case, for a `motive`; `_of_pos`: of a
positive amount. Prefixes: `recoverIfNeeded_` `recoverRetractionIfNeeded`, `plm_`
`processLinearMoves`, `exit_` `exitExcludedRegion`, `disable_` `disableExclusion`, `at_`/`handleAt_`
`handleAtCommand`, `gcode_` `handleGcode`, `gN_` `handleGN`. -/
namespace ERP
open T

section
variable {α : Type}

theorem ite_both {β : Type} {P : β → Prop} {c : Prop} [Decidable c] {a b : β} (ha : P a)
    (hb : P b) : P (if c then a else b) :=
  iteInduction (fun _ => ha) fun _ => hb

theorem lastValue_snoc (ws : List (Char × Option α)) (k c : Char) (v : Option α) :
    lastValue (ws ++ [(k, v)]) c =
      if k == c then (match v with | some x => some x | none => lastValue ws c)
      else lastValue ws c := by
  unfold lastValue
  rw [List.foldl_append]
  rfl

theorem lastValue_none_of (w : List (Char × Option α)) (c : Char)
    (h : ∀ kv ∈ w, kv.2 ≠ none → kv.1 ≠ c) : lastValue w c = none := by
  unfold lastValue
  suffices ∀ acc : Option α, acc = none → w.foldl (fun acc (kv : Char × Option α) =>
      if kv.1 == c then (match kv.2 with | some x => some x | none => acc) else acc) acc = none from
    this none rfl
  induction w with
  | nil => intro acc ha; exact ha
  | cons kv rest ih =>
    intro acc ha
    rw [List.foldl_cons]
    apply ih (fun kv' hkv' => h kv' (List.mem_cons_of_mem _ hkv'))
    split
    · rename_i hk
      cases hv : kv.2 with
      | none => exact ha
      | some x =>
        exact absurd (beq_iff_eq.mp hk) (h kv List.mem_cons_self (hv ▸ Option.some_ne_none x))
    · exact ha

theorem insertBeforeLast_snoc {β : Type} (pre : List β) (x c : β) :
    insertBeforeLast (pre ++ [x]) c = (pre ++ [c]) ++ [x] := by
  simp only [insertBeforeLast, List.dropLast_concat, List.getLast?_append, List.getLast?_singleton,
    Option.some_or]

theorem mem_insertBeforeLast {β : Type} (l : List β) (c o : β) (h : o ∈ insertBeforeLast l c) :
    o = c ∨ o ∈ l := by
  unfold insertBeforeLast at h
  rcases List.mem_append.mp h with h | h
  · rcases List.mem_append.mp h with h | h
    · exact Or.inr (List.dropLast_subset l h)
    · exact Or.inl (List.mem_singleton.mp h)
  · cases hl : l.getLast? with
    | none => rw [hl] at h; cases h
    | some x =>
      rw [hl] at h
      rw [List.mem_singleton.mp h]
      exact Or.inr (List.mem_of_getLast? hl)

/-- the commands the printer receives for a hook result -/
def fwdOf (cmd : Cmd α) : Result α → List (Out α)
  | .none => [.orig cmd]
  | .ignore => []
  | .list l => l

theorem toResult_fst (p : FState α × List (Out α)) : (T.toResult p).1 = p.1 := by
  unfold T.toResult; split <;> rfl

theorem fwdOf_toResult (cmd : Cmd α) (p : FState α × List (Out α)) :
    fwdOf cmd (T.toResult p).2 = p.2 := by
  unfold T.toResult
  split
  · rename_i h; exact (List.isEmpty_iff.mp h).symm
  · rfl

/-- outputs that cannot move X, Y or Z nor change their frames -/
def EOnly : Out α → Prop
  | .g92e _ | .g1fe _ _ | .fw _ _ | .script _ _ | .merged _ _ => True
  | .orig c => ∃ n, Code.ofString c.code = .other n
  | _ => False

/-- what the retraction bookkeeping synthesises: `G92 E…`, `G1 F… E…`, firmware retract/recover -/
def ESynth : Out α → Prop
  | .g92e _ | .g1fe _ _ | .fw _ _ => True
  | _ => False

theorem ESynth.eOnly {o : Out α} (h : ESynth o) : EOnly o := by
  cases o <;> trivial

/-- nothing in `l` moves X, Y or Z -/
def Silent (l : List (Out α)) : Prop := ∀ o ∈ l, EOnly o

/-- `l` is the command itself, preceded by commands that do not move X, Y or Z -/
def Passes (cmd : Cmd α) (l : List (Out α)) : Prop := ∃ pre, l = pre ++ [.orig cmd] ∧ Silent pre

theorem Silent.nil : Silent ([] : List (Out α)) := List.forall_mem_nil _

theorem Silent.append {a b : List (Out α)} (ha : Silent a) (hb : Silent b) : Silent (a ++ b) :=
  fun o ho => (List.mem_append.mp ho).elim (ha o) (hb o)

theorem Passes.single (cmd : Cmd α) : Passes cmd [.orig cmd] := ⟨[], rfl, Silent.nil⟩

/-- The shape of everything the retraction layer returns: synthesised E-commands, followed —
only outside an episode — possibly by the command `c` itself. -/
def NonMoveOuts (excluding : Bool) (c : Cmd α) (l : List (Out α)) : Prop :=
  ∃ pre, (∀ o ∈ pre, ESynth o) ∧ (l = pre ∨ excluding = false ∧ l = pre ++ [.orig c])

namespace NonMoveOuts
variable {e : Bool} {c : Cmd α} {l : List (Out α)}

theorem nil : NonMoveOuts e c [] := ⟨[], List.forall_mem_nil _, .inl rfl⟩

theorem synth (h : ∀ o ∈ l, ESynth o) : NonMoveOuts e c l := ⟨l, h, .inl rfl⟩

theorem orig (pre : List (Out α)) (h : ∀ o ∈ pre, ESynth o) :
    NonMoveOuts false c (pre ++ [.orig c]) :=
  ⟨pre, h, .inr ⟨rfl, rfl⟩⟩

theorem all {P : Out α → Prop} (h : NonMoveOuts e c l) (hc : P (.orig c))
    (hs : ∀ o, ESynth o → P o) : ∀ o ∈ l, P o := by
  obtain ⟨pre, hpre, rfl | ⟨-, rfl⟩⟩ := h
  · exact fun o ho => hs o (hpre o ho)
  · exact fun o ho => (List.mem_append.mp ho).elim (fun h => hs o (hpre o h))
      (fun h => List.mem_singleton.mp h ▸ hc)

theorem of_excluding (h : NonMoveOuts true c l) : ∀ o ∈ l, ESynth o := by
  obtain ⟨pre, hpre, rfl | ⟨h, -⟩⟩ := h
  · exact hpre
  · cases h

theorem insertBeforeLast (h : NonMoveOuts e c l) {x : Out α} (hx : ESynth x) :
    NonMoveOuts e c (insertBeforeLast l x) := by
  obtain ⟨pre, hpre, rfl | ⟨he, rfl⟩⟩ := h
  · exact synth fun o ho => (mem_insertBeforeLast _ _ _ ho).elim (· ▸ hx) (hpre o)
  · rw [insertBeforeLast_snoc, he]
    exact orig _ fun o ho => (List.mem_append.mp ho).elim (hpre o)
      (fun h => List.mem_singleton.mp h ▸ hx)

theorem passOrDrop (b : Bool) (c : Cmd α) : NonMoveOuts b c (if b then [] else [.orig c]) := by
  cases b
  · exact orig [] (List.forall_mem_nil _)
  · exact nil

theorem silent (h : NonMoveOuts true c l) : Silent l := fun o ho => (h.of_excluding o ho).eOnly

theorem passes_or_silent (h : NonMoveOuts e c l) : Passes c l ∨ Silent l := by
  obtain ⟨pre, hpre, rfl | ⟨-, rfl⟩⟩ := h
  · exact .inr fun o ho => (hpre o ho).eOnly
  · exact .inl ⟨pre, rfl, fun o ho => (hpre o ho).eOnly⟩

end NonMoveOuts

namespace C06

/-- the configured enter script, as commands -/
def enterLines (cfg : Config) : List (Out α) :=
  match cfg.enteringExcludedRegionGcode with
  | some l => l.map (.script false)
  | none => []

/-- the configured exit script, as commands -/
def exitLines (cfg : Config) : List (Out α) :=
  match cfg.exitingExcludedRegionGcode with
  | some l => l.map (.script true)
  | none => []

/-- what `_processPendingCommands` turns the pending entries into -/
def flush (pending : List (String × Pending α)) : List (Out α) :=
  pending.map (fun (g, p) => match p with
    | .args a => Out.merged g a
    | .cmd c => Out.orig c)

end C06

theorem mem_enterLines {cfg : Config} {o : Out α} (h : o ∈ C06.enterLines cfg) :
    ∃ l, cfg.enteringExcludedRegionGcode = some l ∧ ∃ t ∈ l, o = .script false t := by
  unfold C06.enterLines at h
  cases hl : cfg.enteringExcludedRegionGcode with
  | none => rw [hl] at h; cases h
  | some l =>
    rw [hl] at h
    obtain ⟨t, ht, rfl⟩ := List.mem_map.mp h
    exact ⟨l, rfl, t, ht, rfl⟩

theorem mem_exitLines {cfg : Config} {o : Out α} (h : o ∈ C06.exitLines cfg) :
    ∃ l, cfg.exitingExcludedRegionGcode = some l ∧ ∃ t ∈ l, o = .script true t := by
  unfold C06.exitLines at h
  cases hl : cfg.exitingExcludedRegionGcode with
  | none => rw [hl] at h; cases h
  | some l =>
    rw [hl] at h
    obtain ⟨t, ht, rfl⟩ := List.mem_map.mp h
    exact ⟨l, rfl, t, ht, rfl⟩

theorem enterLines_silent (cfg : Config) : Silent (C06.enterLines cfg : List (Out α)) := by
  intro o ho
  obtain ⟨_, _, t, _, rfl⟩ := mem_enterLines ho
  trivial

theorem enterExcludedRegion_eq (cfg : Config) (s : FState α) :
    T.enterExcludedRegion cfg s =
      if s.excluding then (s, [])
      else ({ s with excluding := true, lastPosition := some s.position }, C06.enterLines cfg) :=
  rfl

theorem enterExcludedRegion_snd (cfg : Config) (s : FState α) :
    (T.enterExcludedRegion cfg s).2 = if s.excluding then [] else C06.enterLines cfg := by
  rw [enterExcludedRegion_eq]
  split <;> rfl

theorem enterExcludedRegion_fst (cfg : Config) (s : FState α) :
    (T.enterExcludedRegion cfg s).1 =
      { s with excluding := true,
               lastPosition := if s.excluding then s.lastPosition else some s.position } := by
  rw [enterExcludedRegion_eq]
  cases hx : s.excluding
  · rfl
  · show s = { s with excluding := true, lastPosition := s.lastPosition }
    rw [← hx]

theorem processPendingCommands_snd (cfg : Config) (s : FState α) :
    (s.processPendingCommands cfg).2 = C06.flush s.pendingCommands ++ C06.exitLines cfg := rfl

/-- deferred `first`/`last` commands are commands without a built-in handler -/
def PendingNeutral (s : FState α) : Prop :=
  ∀ e ∈ s.pendingCommands, ∀ c, e.2 = Pending.cmd c → ∃ n, Code.ofString c.code = .other n

theorem processPendingCommands_all {P : Out α → Prop} (cfg : Config) (s : FState α)
    (hpn : PendingNeutral s) (merged : ∀ g a, P (.merged g a)) (script : ∀ t, P (.script true t))
    (orig : ∀ c, (∃ n, Code.ofString c.code = .other n) → P (.orig c)) :
    ∀ o ∈ (s.processPendingCommands cfg).2, P o := by
  intro o ho
  rcases List.mem_append.mp ho with ho | ho
  · obtain ⟨⟨g, p⟩, he, rfl⟩ := List.mem_map.mp ho
    cases p with
    | args a => exact merged g a
    | cmd c => exact orig c (hpn _ he c rfl)
  · obtain ⟨_, _, t, _, rfl⟩ := mem_exitLines ho
    exact script t

theorem processPendingCommands_silent (cfg : Config) (s : FState α) (hpn : PendingNeutral s) :
    Silent (s.processPendingCommands cfg).2 :=
  processPendingCommands_all cfg s hpn (fun _ _ => trivial) (fun _ => trivial) fun _ h => h

theorem processExtendedGcodeEntry_frame (s : FState α) (m : Mode) (cmd : Cmd α) (g : String) :
    s.processExtendedGcodeEntry m cmd g =
      { s with pendingCommands := (s.processExtendedGcodeEntry m cmd g).pendingCommands } := by
  unfold FState.processExtendedGcodeEntry
  cases m
  · rfl
  · dsimp only; split <;> rfl
  · rfl
  · rfl

/-- every mode keeps some of the old entries and appends at most one: `cmd` itself, or merged words -/
theorem mem_processExtendedGcodeEntry {s : FState α} {m : Mode} {cmd : Cmd α} {g : String}
    {e : String × Pending α} (h : e ∈ (s.processExtendedGcodeEntry m cmd g).pendingCommands) :
    e ∈ s.pendingCommands ∨ e = (g, .cmd cmd) ∨ ∃ a, e = (g, .args a) := by
  unfold FState.processExtendedGcodeEntry at h
  cases m
  · exact .inl h
  · dsimp only at h
    split at h
    · exact .inl h
    · exact (List.mem_append.mp h).imp id fun h => .inl (List.mem_singleton.mp h)
  · exact (List.mem_append.mp h).imp (fun h => (List.mem_filter.mp h).1)
      fun h => .inl (List.mem_singleton.mp h)
  · exact (List.mem_append.mp h).imp (fun h => (List.mem_filter.mp h).1)
      fun h => .inr ⟨_, List.mem_singleton.mp h⟩

theorem processExtendedGcode_cases (cfg : Config) (s : FState α) (cmd : Cmd α) (g : String) :
    s.processExtendedGcode cfg cmd g = (s, .none) ∨
    s.excluding = true ∧
      ∃ m, s.processExtendedGcode cfg cmd g = (s.processExtendedGcodeEntry m cmd g, .ignore) := by
  unfold FState.processExtendedGcode
  split
  · rename_i hc
    split
    · exact .inr ⟨(Bool.and_eq_true_iff.mp hc).2, _, rfl⟩
    · exact .inl rfl
  · exact .inl rfl

theorem processExtendedGcode_frame (cfg : Config) (s : FState α) (cmd : Cmd α) (g : String) :
    (s.processExtendedGcode cfg cmd g).1 =
      { s with pendingCommands := (s.processExtendedGcode cfg cmd g).1.pendingCommands } := by
  rcases processExtendedGcode_cases cfg s cmd g with e | ⟨-, m, e⟩ <;> rw [e]
  exact processExtendedGcodeEntry_frame s m cmd g

theorem processExtendedGcode_neutral (cfg : Config) (s : FState α) (cmd : Cmd α) (g : String)
    (hpn : PendingNeutral s) (hg : ∃ n, Code.ofString cmd.code = .other n) :
    PendingNeutral (s.processExtendedGcode cfg cmd g).1 := by
  rcases processExtendedGcode_cases cfg s cmd g with e | ⟨-, m, e⟩ <;> rw [e]
  · exact hpn
  · intro e he c hc
    rcases mem_processExtendedGcodeEntry he with h | rfl | ⟨a, rfl⟩
    · exact hpn e h c hc
    · exact Pending.cmd.inj hc ▸ hg
    · cases hc

theorem setAbsoluteMode_eq (cfg : Config) (s : FState α) (b : Bool) :
    s.setAbsoluteMode cfg b = { s with position :=
      { x := s.position.x.setAbsoluteMode b, y := s.position.y.setAbsoluteMode b,
        z := s.position.z.setAbsoluteMode b,
        e := if cfg.g90InfluencesExtruder then s.position.e.setAbsoluteMode b
          else s.position.e } } := by
  unfold FState.setAbsoluteMode
  split <;> rfl

theorem addRegion_eq {s s' : FState α} {r : Region α} (h : s.addRegion r = .ok s') :
    s' = { s with excludedRegions := s.excludedRegions ++ [r] } := by
  unfold FState.addRegion at h
  split at h
  · exact (Except.ok.inj h).symm
  · cases h

end

variable {α : Type} [Field α] [LinearOrder α]

/-- what `recordRetraction` does once it has chosen the record `lr'` to keep -/
def storeRetraction (s : FState α) (r lr' : Retraction α) : FState α × List (Out α) :=
  if s.excluding then
    ({ s with lastRetraction := some lr', position := (T.addCommands r 1 s.position).1 },
      (T.addCommands r 1 s.position).2)
  else ({ s with lastRetraction := some lr' }, [.orig r.originalCommand])

theorem storeRetraction_record (s : FState α) (r lr' : Retraction α) :
    (storeRetraction s r lr').1.lastRetraction = some lr' := by
  unfold storeRetraction
  split <;> rfl

theorem recordRetraction_cases {motive : FState α × List (Out α) → Prop} (s : FState α)
    (r : Retraction α)
    (fresh : s.lastRetraction = none → motive (storeRetraction s r r))
    (combined : ∀ lr, s.lastRetraction = some lr → lr.recoverExcluded = false →
      lr.allowCombine = true → motive (storeRetraction s r (T.combine lr r)))
    (owed : ∀ lr, s.lastRetraction = some lr → lr.recoverExcluded = true →
      motive ({ s with lastRetraction := some (if !lr.firmwareRetract
          then { lr with recoverExcluded := false, feedRate := some s.feedRate }
          else { lr with recoverExcluded := false }) }, []))
    (closed : ∀ lr, s.lastRetraction = some lr → lr.recoverExcluded = false →
      lr.allowCombine = false →
      motive (s, if s.excluding then [] else [.orig r.originalCommand])) :
    motive (T.recordRetraction s r) := by
  unfold T.recordRetraction
  split
  · exact fresh ‹_›
  · rename_i lr hl
    dsimp only
    split
    · exact owed lr hl ‹_›
    · have ho : lr.recoverExcluded = false := Bool.eq_false_iff.mpr ‹_›
      split
      · exact combined lr hl ho ‹_›
      · have := closed lr hl ho (Bool.eq_false_iff.mpr ‹_›)
        cases hx : s.excluding <;> rw [hx] at this <;> exact this

theorem recoverIfNeeded_cases {motive : FState α × List (Out α) → Prop} (s : FState α)
    (cmd : Cmd α) (b : Bool)
    (fresh : s.lastRetraction = none → motive (s, if s.excluding then [] else [.orig cmd]))
    (inside : s.excluding = true → ∀ lr, s.lastRetraction = some lr →
      motive ({ s with lastRetraction := some (if b
          then { lr with allowCombine := false, recoverExcluded := true }
          else { lr with allowCombine := false }) }, []))
    (recover : s.excluding = false → ∀ lr, s.lastRetraction = some lr →
      lr.recoverExcluded = true →
      motive ({ s with lastRetraction := none, position := (T.addCommands lr (-1) s.position).1 },
        (T.addCommands lr (-1) s.position).2 ++ [.orig cmd]))
    (plain : s.excluding = false → ∀ lr, s.lastRetraction = some lr →
      lr.recoverExcluded = false → motive ({ s with lastRetraction := none }, [.orig cmd])) :
    motive (T.recoverRetractionIfNeeded s cmd b) := by
  unfold T.recoverRetractionIfNeeded T.recoverRetraction
  split
  · rename_i lr hl
    dsimp only
    split
    · exact inside ‹_› lr hl
    · split
      · exact recover (Bool.eq_false_iff.mpr ‹_›) lr hl ‹_›
      · exact plain (Bool.eq_false_iff.mpr ‹_›) lr hl (Bool.eq_false_iff.mpr ‹_›)
  · have := fresh ‹_›
    cases hx : s.excluding <;> rw [hx] at this <;> exact this

/-- a retraction for which nothing is returned outside an episode is answered by `G92 E`, so that
the printer's coordinate follows the file's -/
def retractBranch (s : FState α) (r : Retraction α) : FState α × List (Out α) :=
  let rr := T.recordRetraction s r
  if rr.2.isEmpty && !rr.1.excluding then (rr.1, [.g92e (n2l rr.1.position.e)]) else rr

theorem processNonMove_cases {motive : FState α × List (Out α) → Prop} (s : FState α)
    (cmd : Cmd α) (dE : α)
    (retract : dE < 0 → motive (retractBranch s
      { firmwareRetract := false, extrusionAmount := some (-dE), feedRate := some s.feedRate,
        originalCommand := cmd }))
    (recover : 0 < dE → motive (T.recoverRetractionIfNeeded s cmd true))
    (idle : dE = 0 → motive (s, if s.excluding then [] else [.orig cmd])) :
    motive (T.processNonMove s cmd dE) := by
  unfold T.processNonMove
  split
  · exact retract ‹_›
  · split
    · exact recover ‹_›
    · have := idle (le_antisymm (not_lt.mp ‹_›) (not_lt.mp ‹_›))
      cases hx : s.excluding <;> rw [hx] at this <;> exact this

theorem addCommands_synth (r : Retraction α) (dir : α) (p : Position α) :
    ∀ o ∈ (addCommands r dir p).2, ESynth o := by
  unfold addCommands
  split <;> simp only [List.mem_cons, List.not_mem_nil, or_false, forall_eq_or_imp, forall_eq] <;>
    trivial

theorem addCommands_fw (r : Retraction α) (dir : α) (p : Position α)
    (h : r.firmwareRetract = true) :
    (T.addCommands r dir p).2 = [.fw (decide (dir < 0)) r.originalCommand.text] := by
  unfold T.addCommands
  simp only [h, if_true]

theorem storeRetraction_outs (s : FState α) (r lr' : Retraction α) :
    NonMoveOuts s.excluding r.originalCommand (storeRetraction s r lr').2 := by
  unfold storeRetraction
  cases s.excluding
  · exact .orig [] (List.forall_mem_nil _)
  · exact .synth (addCommands_synth r 1 s.position)

theorem recordRetraction_outs (s : FState α) (r : Retraction α) :
    NonMoveOuts s.excluding r.originalCommand (recordRetraction s r).2 :=
  recordRetraction_cases (motive := fun p => NonMoveOuts s.excluding r.originalCommand p.2) s r
    (fun _ => storeRetraction_outs s r r) (fun _ _ _ _ => storeRetraction_outs s r _)
    (fun _ _ _ => .nil) (fun _ _ _ _ => .passOrDrop _ _)

theorem recoverIfNeeded_outs (s : FState α) (cmd : Cmd α) (b : Bool) :
    NonMoveOuts s.excluding cmd (recoverRetractionIfNeeded s cmd b).2 :=
  recoverIfNeeded_cases (motive := fun p => NonMoveOuts s.excluding cmd p.2) s cmd b
    (fun _ => .passOrDrop _ _) (fun _ _ _ => .nil)
    (fun hx _ _ _ => hx ▸ .orig _ (addCommands_synth _ _ _))
    (fun hx _ _ _ => hx ▸ .orig [] (List.forall_mem_nil _))

theorem processNonMove_outs (s : FState α) (cmd : Cmd α) (d : α) :
    NonMoveOuts s.excluding cmd (processNonMove s cmd d).2 :=
  processNonMove_cases (motive := fun p => NonMoveOuts s.excluding cmd p.2) s cmd d
    (fun _ => ite_both (P := fun p : FState α × List (Out α) => NonMoveOuts s.excluding cmd p.2)
      (.synth fun _ ho => List.mem_singleton.mp ho ▸ trivial) (recordRetraction_outs s _))
    (fun _ => recoverIfNeeded_outs s cmd true) (fun _ => .passOrDrop _ _)

theorem processExcludedMove_eq (cfg : Config) (s : FState α) (cmd : Cmd α) (dE : α) :
    T.processExcludedMove cfg s cmd dE =
      let r := T.enterExcludedRegion cfg s
      if dE < 0 then
        ((T.processNonMove r.1 cmd dE).1, r.2 ++ (T.processNonMove r.1 cmd dE).2)
      else r := by
  have e : (if !s.excluding then T.enterExcludedRegion cfg s else (s, [])) =
      T.enterExcludedRegion cfg s := by
    rw [enterExcludedRegion_eq]
    cases s.excluding <;> rfl
  unfold T.processExcludedMove
  rw [e]

theorem processExcludedMove_outs (cfg : Config) (s : FState α) (cmd : Cmd α) (d : α) :
    ∃ more, (processExcludedMove cfg s cmd d).2 =
        (if s.excluding then [] else C06.enterLines cfg) ++ more ∧ ∀ o ∈ more, ESynth o := by
  have hx : (T.enterExcludedRegion cfg s).1.excluding = true := by rw [enterExcludedRegion_fst]
  rw [processExcludedMove_eq, ← enterExcludedRegion_snd]
  dsimp only
  split
  · exact ⟨_, rfl, (hx ▸ processNonMove_outs _ cmd d).of_excluding⟩
  · exact ⟨[], (List.append_nil _).symm, List.forall_mem_nil _⟩

theorem addCommands_frame (r : Retraction α) (dir : α) (p : Position α) :
    (addCommands r dir p).1 = { p with e := (addCommands r dir p).1.e } := by
  unfold addCommands; split <;> rfl

/-- what the retraction bookkeeping can do to a state: `s'` is `s` up to the retraction record and
the position, which is `s`'s or what an `_addCommands` call leaves of it (E moved by the retraction
amount and back: the same position in exact arithmetic, not in floating point) -/
def ETouch (s s' : FState α) : Prop :=
  ∃ p', (p' = s.position ∨ ∃ r dir, p' = (addCommands r dir s.position).1) ∧
    s' = { s with lastRetraction := s'.lastRetraction, position := p' }

namespace ETouch
variable {s s' : FState α}

theorem refl (s : FState α) : ETouch s s := ⟨s.position, .inl rfl, rfl⟩

theorem frame_e (h : ETouch s s') :
    s' = { s with lastRetraction := s'.lastRetraction,
                  position := { s.position with e := s'.position.e } } := by
  obtain ⟨p', rfl | ⟨r, dir, rfl⟩, h⟩ := h
  · rw [h]
  · rw [h, ← addCommands_frame]

theorem regions (h : ETouch s s') : s'.excludedRegions = s.excludedRegions := by rw [h.frame_e]
theorem enabled (h : ETouch s s') : s'.exclusionEnabled = s.exclusionEnabled := by rw [h.frame_e]
theorem excluding (h : ETouch s s') : s'.excluding = s.excluding := by rw [h.frame_e]
theorem lastPosition (h : ETouch s s') : s'.lastPosition = s.lastPosition := by rw [h.frame_e]
theorem pending (h : ETouch s s') : s'.pendingCommands = s.pendingCommands := by rw [h.frame_e]

theorem setLastPosition (h : ETouch s s') (lp : Option (Position α)) :
    ETouch { s with lastPosition := lp } { s' with lastPosition := lp } := by
  obtain ⟨p', hp, h⟩ := h
  exact ⟨p', hp, by rw [h]⟩

end ETouch

theorem storeRetraction_touch (s : FState α) (r lr' : Retraction α) :
    ETouch s (storeRetraction s r lr').1 := by
  unfold storeRetraction
  split
  · exact ⟨_, .inr ⟨r, 1, rfl⟩, rfl⟩
  · exact ⟨_, .inl rfl, rfl⟩

theorem recordRetraction_touch (s : FState α) (r : Retraction α) :
    ETouch s (recordRetraction s r).1 :=
  recordRetraction_cases (motive := fun p => ETouch s p.1) s r
    (fun _ => storeRetraction_touch s r r) (fun _ _ _ _ => storeRetraction_touch s r _)
    (fun _ _ _ => ⟨_, .inl rfl, rfl⟩) (fun _ _ _ _ => ETouch.refl s)

theorem recoverIfNeeded_touch (s : FState α) (cmd : Cmd α) (b : Bool) :
    ETouch s (recoverRetractionIfNeeded s cmd b).1 :=
  recoverIfNeeded_cases (motive := fun p => ETouch s p.1) s cmd b (fun _ => ETouch.refl s)
    (fun _ _ _ => ⟨_, .inl rfl, rfl⟩) (fun _ _ _ _ => ⟨_, .inr ⟨_, _, rfl⟩, rfl⟩)
    (fun _ _ _ _ => ⟨_, .inl rfl, rfl⟩)

theorem processNonMove_touch (s : FState α) (cmd : Cmd α) (d : α) :
    ETouch s (processNonMove s cmd d).1 :=
  processNonMove_cases (motive := fun p => ETouch s p.1) s cmd d
    (fun _ => ite_both (P := fun p : FState α × List (Out α) => ETouch s p.1)
      (recordRetraction_touch s _) (recordRetraction_touch s _))
    (fun _ => recoverIfNeeded_touch s cmd true) (fun _ => ETouch.refl s)

theorem processExcludedMove_touch (cfg : Config) (s : FState α) (cmd : Cmd α) (d : α) :
    ETouch { s with excluding := true,
                    lastPosition := if s.excluding then s.lastPosition else some s.position }
      (processExcludedMove cfg s cmd d).1 := by
  rw [processExcludedMove_eq, ← enterExcludedRegion_fst]
  dsimp only
  split
  · exact processNonMove_touch _ cmd d
  · exact ETouch.refl _

/-- the outputs: `exit_outputs` in Lemmas/GenArith -/
theorem exitExcludedRegion_fst (cfg : Config) (s : FState α) :
    (T.exitExcludedRegion cfg s).1 =
      if s.excluding then { s with excluding := false, pendingCommands := [] } else s := by
  unfold T.exitExcludedRegion
  cases s.excluding <;> rfl

theorem disableExclusion_eq (cfg : Config) (s : FState α) :
    T.disableExclusion cfg s =
      if s.exclusionEnabled then
        if s.excluding then T.exitExcludedRegion cfg { s with exclusionEnabled := false }
        else ({ s with exclusionEnabled := false }, [])
      else (s, []) := rfl

theorem disableExclusion_pos (cfg : Config) (s : FState α) :
    (T.disableExclusion cfg s).1.position = s.position := by
  rw [disableExclusion_eq]
  split
  · split
    · rw [exitExcludedRegion_fst]; split <;> rfl
    · rfl
  · rfl

theorem atLoop_unmatched (cfg : Config) (ps : Text) (es : List AtEntry)
    (hno : ∀ e ∈ es, e.matcher ps = false) (s : FState α) (hd : Bool) (sent : List (Out α)) :
    T.atLoop cfg ps es s hd sent = (s, hd, sent) := by
  induction es with
  | nil => rfl
  | cons e rest ih =>
    unfold T.atLoop
    rw [hno e List.mem_cons_self]
    simp only [Bool.false_eq_true, if_false]
    exact ih (fun e' he' => hno e' (List.mem_cons_of_mem _ he'))

/-- **`handleAtCommand` by induction**: the loop over the patterns only enables the exclusion or
disables it, appending what the disabling returns -/
theorem handleAtCommand_induction {motive : FState α → List (Out α) → Prop} (cfg : Config)
    (s : FState α) (st : Bool) (cmd : String) (ps : Text) (start : motive s [])
    (enable : ∀ s sent, motive s sent → motive s.enableExclusion sent)
    (disable : ∀ s sent, motive s sent →
      motive (T.disableExclusion cfg s).1 (sent ++ (T.disableExclusion cfg s).2)) :
    motive (T.handleAtCommand cfg s st cmd ps).1 (T.handleAtCommand cfg s st cmd ps).2.2 := by
  unfold T.handleAtCommand
  split
  · exact start
  · generalize List.filter (fun e => e.command == cmd) cfg.atCommandActions = es
    generalize false = hd
    generalize ([] : List (Out α)) = sent at start ⊢
    induction es generalizing s hd sent with
    | nil => exact start
    | cons e rest ih =>
      unfold T.atLoop
      split
      · cases e.action with
        | enable => exact ih _ _ _ (enable _ _ start)
        | disable => exact ih _ _ _ (disable _ _ start)
        | unsupported => exact ih _ _ _ start
      · exact ih _ _ _ start

theorem handleAtCommand_pos (cfg : Config) (s : FState α) (st : Bool) (cmd : String)
    (ps : Text) : (T.handleAtCommand cfg s st cmd ps).1.position = s.position :=
  handleAtCommand_induction (motive := fun s' _ => s'.position = s.position) cfg s st cmd ps rfl
    (fun _ _ h => h) fun s' _ h => (disableExclusion_pos cfg s').trans h

/-- `recoverRetractionIfNeeded` followed by the insertion of `G92 E<prior>` after an injected
non-firmware recovery (shared by extruding moves and E-only extrusions) -/
def recoverBranch (s1 : FState α) (cmd : Cmd α) (b : Bool) (priorE : α) : FState α × List (Out α) :=
  let r3 := T.recoverRetractionIfNeeded s1 cmd b
  match s1.lastRetraction with
  | some lr =>
    if lr.recoverExcluded && !lr.firmwareRetract then
      (r3.1, insertBeforeLast r3.2 (.g92e (n2lAbs r3.1.position.e priorE)))
    else r3
  | none => r3

theorem recoverBranch_fst (s : FState α) (cmd : Cmd α) (b : Bool) (pE : α) :
    (recoverBranch s cmd b pE).1 = (T.recoverRetractionIfNeeded s cmd b).1 := by
  unfold recoverBranch
  split
  · dsimp only; split <;> rfl
  · rfl

theorem recoverBranch_eq_recoverIfNeeded (s : FState α) (cmd : Cmd α) (b : Bool) (pE : α)
    (h : ∀ lr, s.lastRetraction = some lr → lr.recoverExcluded = false ∨ lr.firmwareRetract = true) :
    recoverBranch s cmd b pE = T.recoverRetractionIfNeeded s cmd b := by
  unfold recoverBranch
  split
  · rename_i lr hl
    rcases h lr hl with h | h <;>
      simp only [h, Bool.false_and, Bool.not_true, Bool.and_false, Bool.false_eq_true, if_false]
  · rfl

theorem recoverBranch_outs (s : FState α) (cmd : Cmd α) (b : Bool) (pE : α) :
    NonMoveOuts s.excluding cmd (recoverBranch s cmd b pE).2 := by
  have h := recoverIfNeeded_outs s cmd b
  unfold recoverBranch
  split
  · dsimp only
    split
    · exact h.insertBeforeLast trivial
    · exact h
  · exact h

theorem nonMoveBody_fst (s : FState α) (cmd : Cmd α) (dE pE : α) :
    (T.nonMoveBody s cmd dE pE).1 = (T.processNonMove s cmd dE).1 := by
  unfold T.nonMoveBody
  split
  · dsimp only; split <;> rfl
  · rfl

theorem nonMoveBody_eq_processNonMove (s : FState α) (cmd : Cmd α) (dE pE : α)
    (h : ∀ lr, s.lastRetraction = some lr → lr.recoverExcluded = false ∨ lr.firmwareRetract = true) :
    T.nonMoveBody s cmd dE pE = T.processNonMove s cmd dE := by
  unfold T.nonMoveBody
  split
  · rename_i lr hl
    rcases h lr hl with h | h <;>
      simp only [h, Bool.and_false, Bool.false_and, Bool.not_true, Bool.false_eq_true, if_false]
  · rfl

theorem nonMoveBody_outs (s : FState α) (cmd : Cmd α) (d pE : α) :
    NonMoveOuts s.excluding cmd (nonMoveBody s cmd d pE).2 := by
  have h := processNonMove_outs s cmd d
  unfold nonMoveBody
  dsimp only
  split
  · split
    · exact h.insertBeforeLast trivial
    · exact h
  · exact h

/-- the `G92 E` that `nonMoveBody` may insert goes into the output of an extrusion only -/
theorem nonMoveBody_of_not_pos (s : FState α) (cmd : Cmd α) {dE : α} (pE : α) (h : ¬ 0 < dE) :
    T.nonMoveBody s cmd dE pE = T.processNonMove s cmd dE := by
  unfold T.nonMoveBody
  cases s.lastRetraction <;>
    simp only [h, decide_false, Bool.false_and, Bool.false_eq_true, if_false]

theorem nonMoveBody_of_pos (s : FState α) (cmd : Cmd α) (dE pE : α) (h : 0 < dE) :
    T.nonMoveBody s cmd dE pE =
      if s.excluding then T.recoverRetractionIfNeeded s cmd true
      else recoverBranch s cmd true pE := by
  have hp : T.processNonMove s cmd dE = T.recoverRetractionIfNeeded s cmd true :=
    processNonMove_cases (motive := fun p => p = _) s cmd dE
      (fun hn => absurd h (not_lt.mpr hn.le)) (fun _ => rfl) (fun h0 => absurd h (h0 ▸ lt_irrefl _))
  have hx := (recoverIfNeeded_touch s cmd true).excluding
  -- the guard of `nonMoveBody` is then `recoverBranch`'s and `!excluding`, which `hx` keeps
  unfold T.nonMoveBody recoverBranch
  rw [hp]
  cases s.lastRetraction <;> cases hex : s.excluding <;>
    simp only [h, hx, hex, if_false, if_true, decide_true, Bool.true_and, Bool.not_false,
      Bool.not_true, Bool.false_and, Bool.false_eq_true]

theorem nonMoveBody_cases {motive : FState α × List (Out α) → Prop} (s : FState α) (cmd : Cmd α)
    (dE pE : α)
    (retract : dE < 0 → motive (retractBranch s
      { firmwareRetract := false, extrusionAmount := some (-dE), feedRate := some s.feedRate,
        originalCommand := cmd }))
    (idle : dE = 0 → motive (s, if s.excluding then [] else [.orig cmd]))
    (inside : 0 < dE → s.excluding = true → motive (T.recoverRetractionIfNeeded s cmd true))
    (outside : 0 < dE → s.excluding = false → motive (recoverBranch s cmd true pE)) :
    motive (T.nonMoveBody s cmd dE pE) := by
  by_cases hpos : 0 < dE
  · rw [nonMoveBody_of_pos s cmd dE pE hpos]
    exact iteInduction (inside hpos) fun hx => outside hpos (Bool.eq_false_iff.mpr hx)
  · rw [nonMoveBody_of_not_pos s cmd pE hpos]
    exact processNonMove_cases s cmd dE retract (fun h => absurd h hpos) idle

/-- what `recoverBranch` sends ahead of the command outside an episode: the owed recovery, and for
an E-only one the re-declaration of the coordinate the command starts from -/
def recoverPre (s : FState α) (pE : α) : List (Out α) :=
  match s.lastRetraction with
  | some lr =>
    if lr.recoverExcluded then
      (T.addCommands lr (-1) s.position).2 ++
        if lr.firmwareRetract then [] else [.g92e (n2lAbs s.position.e pE)]
    else []
  | none => []

theorem recoverPre_synth (s : FState α) (pE : α) : ∀ o ∈ recoverPre s pE, ESynth o := by
  unfold recoverPre
  split
  · split
    · intro o ho
      rcases List.mem_append.mp ho with ho | ho
      · exact addCommands_synth _ _ _ o ho
      · split at ho
        · cases ho
        · exact List.mem_singleton.mp ho ▸ trivial
    · exact List.forall_mem_nil _
  · exact List.forall_mem_nil _

theorem n2lAbs_addCommands (r : Retraction α) (dir : α) (p : Position α) (v : α) :
    n2lAbs (T.addCommands r dir p).1.e v = n2lAbs p.e v := by
  unfold T.addCommands
  split <;> rfl

theorem recoverBranch_snd (s : FState α) (cmd : Cmd α) (b : Bool) (pE : α)
    (he : s.excluding = false) : (recoverBranch s cmd b pE).2 = recoverPre s pE ++ [.orig cmd] := by
  unfold recoverBranch recoverPre
  refine recoverIfNeeded_cases (motive := fun r3 => (match s.lastRetraction with
      | some lr =>
        if lr.recoverExcluded && !lr.firmwareRetract then
          (r3.1, insertBeforeLast r3.2 (.g92e (n2lAbs r3.1.position.e pE)))
        else r3
      | none => r3).2 = _) s cmd b (fun hl => ?_)
    (fun hx => absurd (he ▸ hx) Bool.false_ne_true) (fun _ lr hl ho => ?_) (fun _ lr hl ho => ?_)
  · rw [hl, he]
    rfl
  · rw [hl]
    dsimp only
    rw [ho]
    cases lr.firmwareRetract
    · rw [Bool.not_false, Bool.and_self, if_pos rfl, if_pos rfl, if_neg Bool.false_ne_true]
      dsimp only
      rw [insertBeforeLast_snoc, n2lAbs_addCommands]
    · rw [Bool.not_true, Bool.and_false, if_neg Bool.false_ne_true, if_pos rfl, if_pos rfl,
        List.append_nil]
  · rw [hl]
    dsimp only
    rw [ho]
    rfl

theorem recoverBranch_passes (s : FState α) (cmd : Cmd α) (b : Bool) (pE : α)
    (he : s.excluding = false) : Passes cmd (recoverBranch s cmd b pE).2 :=
  ⟨_, recoverBranch_snd s cmd b pE he, fun o ho => (recoverPre_synth s pE o ho).eOnly⟩

theorem handleG10_cases {motive : FState α × Result α → Prop} (s : FState α) (cmd : Cmd α)
    (skip : motive (s, .none))
    (record : motive (T.toResult (T.recordRetraction s
      { firmwareRetract := true, extrusionAmount := none, feedRate := none,
        originalCommand := cmd }))) : motive (T.handleG10 s cmd) :=
  iteInduction (fun _ => skip) fun _ => record

section
omit [LinearOrder α]

theorem handleG28_eq (s : FState α) (cmd : Cmd α) :
    handleG28 s cmd = { s with position :=
      { x := if hasLetter cmd.words 'X' || !(hasLetter cmd.words 'X' || hasLetter cmd.words 'Y' ||
            hasLetter cmd.words 'Z') then s.position.x.setHome else s.position.x,
        y := if hasLetter cmd.words 'Y' || !(hasLetter cmd.words 'X' || hasLetter cmd.words 'Y' ||
            hasLetter cmd.words 'Z') then s.position.y.setHome else s.position.y,
        z := if hasLetter cmd.words 'Z' || !(hasLetter cmd.words 'X' || hasLetter cmd.words 'Y' ||
            hasLetter cmd.words 'Z') then s.position.z.setHome else s.position.z,
        e := s.position.e } } := by
  unfold handleG28
  generalize hasLetter cmd.words 'X' = a
  generalize hasLetter cmd.words 'Y' = b
  generalize hasLetter cmd.words 'Z' = c
  cases a <;> cases b <;> cases c <;> rfl

theorem cur_setLog_abs (a : Axis α) (v : α) (h : a.absoluteMode = true) :
    cur (setLog a (some v)) = v * a.unitMultiplier + (a.offset + a.homeOffset) := by
  show l2n a v = _
  rw [l2n, if_pos h]

theorem setLog_setLog_abs (a : Axis α) (v : Option α) (x : α) (ha : a.absoluteMode = true) :
    setLog (setLog a v) (some x) = setLog a (some x) := by
  cases v with
  | none => rfl
  | some y => simp only [setLog, l2n, ha, if_true]

theorem l2n_n2l_abs (a : Axis α) (habs : a.absoluteMode = true) (hu : a.unitMultiplier ≠ 0) :
    l2n a (n2l a) = cur a := by
  simp only [l2n, n2l, habs, if_true]
  rw [div_mul_cancel₀ _ hu, sub_add_cancel]

/-- the native points the loop of `isAnyPointExcluded` tests, starting from axes `x`, `y` -/
def loopPoints (x y : Axis α) : List (Option α × Option α) → List (α × α)
  | [] => []
  | (px, py) :: rest =>
    (cur (setLog x px), cur (setLog y py)) :: loopPoints (setLog x px) (setLog y py) rest

theorem loopPoints_abs (pts : List (α × α)) (x y : Axis α) (hx : x.absoluteMode = true)
    (hy : y.absoluteMode = true) :
    loopPoints x y (pts.map fun (a, b) => (some a, some b)) =
      pts.map fun q => (q.1 * x.unitMultiplier + (x.offset + x.homeOffset),
        q.2 * y.unitMultiplier + (y.offset + y.homeOffset)) := by
  induction pts generalizing x y with
  | nil => rfl
  | cons q rest ih =>
    rw [List.map_cons, loopPoints, cur_setLog_abs _ _ hx, cur_setLog_abs _ _ hy,
      ih (setLog x (some q.1)) (setLog y (some q.2)) hx hy]
    rfl

/-- the X (resp. Y) axis after the point loop of `isAnyPointExcluded` -/
def loopAxis (a : Axis α) (vs : List (Option α)) : Axis α := vs.foldl setLog a

theorem loopAxis_none (a : Axis α) (vs : List (Option α)) (h : ∀ v ∈ vs, v = none) :
    loopAxis a vs = a := by
  induction vs with
  | nil => rfl
  | cons v rest ih =>
    rw [loopAxis, List.foldl_cons, h v List.mem_cons_self]
    exact ih fun v' hv' => h v' (List.mem_cons_of_mem _ hv')

/-- the tracked axes after a move command -/
def movedPos (p : Position α) (ep fz : Option α) (xy : List (Option α × Option α)) : Position α :=
  { x := loopAxis p.x (xy.map (fun q => q.1)), y := loopAxis p.y (xy.map (fun q => q.2)),
    z := setLog p.z fz, e := setLog p.e ep }

theorem movedPos_of_not_move (p : Position α) (ep : Option α) {fz : Option α}
    {xy : List (Option α × Option α)} (hm : T.isMoveOf fz xy = false) :
    movedPos p ep fz xy = { p with e := setLog p.e ep } := by
  simp only [T.isMoveOf, Bool.or_eq_false_iff, Option.isSome_eq_false_iff,
    Option.isNone_iff_eq_none, List.any_eq_false, Bool.not_eq_true] at hm
  obtain ⟨rfl, hxy⟩ := hm
  have hx : ∀ v ∈ xy.map (·.1), v = none := by
    intro v hv; obtain ⟨q, hq, rfl⟩ := List.mem_map.mp hv; exact (hxy q hq).1
  have hy : ∀ v ∈ xy.map (·.2), v = none := by
    intro v hv; obtain ⟨q, hq, rfl⟩ := List.mem_map.mp hv; exact (hxy q hq).2
  simp only [movedPos, loopAxis_none _ _ hx, loopAxis_none _ _ hy, setLog]

/-- the filter state once a move command's words have been applied: what `applyEZF` and the point
loop of `isAnyPointExcluded` leave behind -/
def tracked (s : FState α) (ep fr fz : Option α) (xy : List (Option α × Option α)) : FState α :=
  { s with position := movedPos s.position ep fz xy,
           feedRate := match fr with
             | some f => f * s.feedRateUnitMultiplier
             | none => s.feedRate }

theorem applyEZF_eq (s : FState α) (ep fr fz : Option α) :
    T.applyEZF s ep fr fz =
      { s with
        position := { s.position with e := setLog s.position.e ep, z := setLog s.position.z fz },
        feedRate := match fr with
          | some f => f * s.feedRateUnitMultiplier
          | none => s.feedRate } := by
  unfold T.applyEZF; cases fr <;> rfl

theorem tracked_excluding (s : FState α) (ep fr fz : Option α) (xy : List (Option α × Option α)) :
    (tracked s ep fr fz xy).excluding = s.excluding := rfl

theorem tracked_ctrl (s : FState α) (ep fr fz : Option α) (xy : List (Option α × Option α))
    {b : Bool} (hx : s.excluding = b) :
    { tracked s ep fr fz xy with excluding := b, lastPosition := s.lastPosition,
                                 pendingCommands := s.pendingCommands } = tracked s ep fr fz xy := by
  subst hx
  rfl

theorem tracked_of_not_move (s : FState α) (ep fr : Option α) {fz : Option α}
    {xy : List (Option α × Option α)} (hm : T.isMoveOf fz xy = false) :
    tracked s ep fr fz xy = T.applyEZF s ep fr fz := by
  have hz : setLog s.position.z fz = s.position.z :=
    congrArg Position.z (movedPos_of_not_move s.position ep hm)
  unfold tracked
  rw [applyEZF_eq, movedPos_of_not_move _ _ hm, hz]

theorem deltaEOf_eq (s : FState α) (ep : Option α) :
    T.deltaEOf s ep = cur (setLog s.position.e ep) - cur s.position.e := by
  unfold T.deltaEOf
  cases ep with
  | none => exact (sub_self _).symm
  | some v => rfl

end

variable [MathOps α]

theorem isAnyLoop_fst (pairs : List (Option α × Option α)) :
    ∀ (s : FState α) (any : Bool),
      (T.isAnyLoop s pairs any).1 =
        { s with position := { s.position with
            x := loopAxis s.position.x (pairs.map (·.1)),
            y := loopAxis s.position.y (pairs.map (·.2)) } } := by
  induction pairs with
  | nil => intro s any; rfl
  | cons p rest ih =>
    intro s any
    obtain ⟨px, py⟩ := p
    simp only [T.isAnyLoop, ih, List.map_cons, loopAxis, List.foldl_cons]

theorem isAnyLoop_applyEZF (s : FState α) (ep fr fz : Option α) (xy : List (Option α × Option α))
    (any : Bool) : (T.isAnyLoop (T.applyEZF s ep fr fz) xy any).1 = tracked s ep fr fz xy := by
  rw [isAnyLoop_fst, applyEZF_eq]; rfl

/-- did the command test a point that is excluded? (`false` for non-moves; the values of E, F and
Z do not enter: `hitOf_eq`) -/
def hitOf (s : FState α) (ep fr fz : Option α) (xy : List (Option α × Option α)) : Bool :=
  T.isMoveOf fz xy && (T.isAnyLoop (T.applyEZF s ep fr fz) xy false).2

theorem hitOf_isMove {s : FState α} {ep fr fz : Option α} {xy : List (Option α × Option α)}
    (h : hitOf s ep fr fz xy = true) : T.isMoveOf fz xy = true :=
  (Bool.and_eq_true_iff.mp h).1

/-- **`processLinearMoves` in one equation**: on the state `t` the command's words lead to, one
of five results — the retraction bookkeeping of a non-move, an excluded move, the end of an
episode, an extruding move outside (which may owe a recovery), a plain travel. -/
theorem plm_eq (cfg : Config) (s : FState α) (cmd : Cmd α) (ep fr fz : Option α)
    (xy : List (Option α × Option α)) :
    T.processLinearMoves cfg s cmd ep fr fz xy =
      let t := tracked s ep fr fz xy
      let dE := T.deltaEOf s ep
      let pE := cur s.position.e
      T.toResult <|
        if !T.isMoveOf fz xy then T.nonMoveBody t cmd dE pE
        else if hitOf s ep fr fz xy then
          let r := T.processExcludedMove cfg t cmd dE
          (if r.1.excluding && !s.excluding then { r.1 with lastPosition := some s.position }
            else r.1, r.2)
        else if s.excluding then T.exitExcludedRegion cfg t
        else if !(dE == 0) then recoverBranch t cmd false pE
        else (t, [.orig cmd]) := by
  unfold T.processLinearMoves hitOf
  cases hm : T.isMoveOf fz xy
  · simp only [Bool.not_false, if_true, tracked_of_not_move s ep fr hm]
  · simp only [Bool.not_true, Bool.false_eq_true, if_false, Bool.true_and, T.moveBody,
      isAnyLoop_applyEZF]
    rfl

theorem plm_cases {motive : FState α × List (Out α) → Prop} (cfg : Config) (s : FState α)
    (cmd : Cmd α) (ep fr fz : Option α) (xy : List (Option α × Option α))
    (nonmove : T.isMoveOf fz xy = false →
      motive (T.nonMoveBody (tracked s ep fr fz xy) cmd (T.deltaEOf s ep) (cur s.position.e)))
    (hit : T.isMoveOf fz xy = true → hitOf s ep fr fz xy = true →
      motive (let r := T.processExcludedMove cfg (tracked s ep fr fz xy) cmd (T.deltaEOf s ep)
        (if r.1.excluding && !s.excluding then { r.1 with lastPosition := some s.position }
          else r.1, r.2)))
    (exit : T.isMoveOf fz xy = true → hitOf s ep fr fz xy = false → s.excluding = true →
      motive (T.exitExcludedRegion cfg (tracked s ep fr fz xy)))
    (extrude : T.isMoveOf fz xy = true → hitOf s ep fr fz xy = false → s.excluding = false →
      T.deltaEOf s ep ≠ 0 →
      motive (recoverBranch (tracked s ep fr fz xy) cmd false (cur s.position.e)))
    (travel : T.isMoveOf fz xy = true → hitOf s ep fr fz xy = false → s.excluding = false →
      T.deltaEOf s ep = 0 → motive (tracked s ep fr fz xy, [.orig cmd])) :
    ∃ r, T.processLinearMoves cfg s cmd ep fr fz xy = T.toResult r ∧ motive r := by
  refine ⟨_, plm_eq cfg s cmd ep fr fz xy, ?_⟩
  refine iteInduction (fun h => nonmove (Bool.not_eq_true' _ ▸ h)) fun hm => ?_
  have hm : T.isMoveOf fz xy = true := Bool.not_eq_false' _ ▸ Bool.eq_false_iff.mpr hm
  refine iteInduction (hit hm) fun hh => ?_
  have hh := Bool.eq_false_iff.mpr hh
  refine iteInduction (exit hm hh) fun hx => ?_
  have hx := Bool.eq_false_iff.mpr hx
  exact iteInduction (fun hd => extrude hm hh hx (ne_of_beq_false (Bool.not_eq_true' _ ▸ hd)))
    fun hd => travel hm hh hx (eq_of_beq (Bool.not_eq_false' _ ▸ Bool.eq_false_iff.mpr hd))

/-- The state `processLinearMoves` leaves, in closed form up to what the retraction layer touches. -/
theorem plm_touch (cfg : Config) (s : FState α) (cmd : Cmd α) (ep fr fz : Option α)
    (xy : List (Option α × Option α)) :
    ETouch { tracked s ep fr fz xy with
      excluding := if T.isMoveOf fz xy then hitOf s ep fr fz xy else s.excluding,
      lastPosition :=
        if hitOf s ep fr fz xy && !s.excluding then some s.position else s.lastPosition,
      pendingCommands :=
        if T.isMoveOf fz xy && !hitOf s ep fr fz xy && s.excluding then []
        else s.pendingCommands }
      (T.processLinearMoves cfg s cmd ep fr fz xy).1 := by
  refine (plm_cases (motive := fun r => ETouch _ r.1) cfg s cmd ep fr fz xy (fun hm => ?_)
    (fun hm hh => ?_) (fun hm hh hx => ?_) (fun hm hh hx _ => ?_) (fun hm hh hx _ => ?_)).elim
    fun r h => by rw [h.1, toResult_fst]; exact h.2
  · rw [hm, hitOf, hm, Bool.false_and, nonMoveBody_fst]
    exact processNonMove_touch _ cmd _
  · have ht := processExcludedMove_touch cfg (tracked s ep fr fz xy) cmd (T.deltaEOf s ep)
    have hex := ht.excluding
    rw [hm, hh]
    generalize T.processExcludedMove cfg (tracked s ep fr fz xy) cmd (T.deltaEOf s ep) = r at *
    dsimp only at hex ⊢
    cases hx : s.excluding
    · rw [if_pos (show (r.1.excluding && !false) = true by rw [hex]; rfl)]
      exact ht.setLastPosition (some s.position)
    · rw [if_neg (show ¬(r.1.excluding && !true) = true by rw [hex]; exact Bool.false_ne_true)]
      rw [tracked_excluding, hx] at ht
      exact ht
  · rw [hm, hh, hx, exitExcludedRegion_fst, tracked_excluding, hx]
    exact ETouch.refl _
  · rw [hm, hh, hx, recoverBranch_fst]
    show ETouch { tracked s ep fr fz xy with excluding := false, lastPosition := s.lastPosition,
                                             pendingCommands := s.pendingCommands } _
    rw [tracked_ctrl s ep fr fz xy hx]
    exact recoverIfNeeded_touch _ cmd false
  · rw [hm, hh, hx]
    show ETouch { tracked s ep fr fz xy with excluding := false, lastPosition := s.lastPosition,
                                             pendingCommands := s.pendingCommands } _
    rw [tracked_ctrl s ep fr fz xy hx]
    exact ETouch.refl _

/-- **What `processLinearMoves` forwards** (`out`), as far as X, Y and Z are concerned. -/
structure PlmOuts (cfg : Config) (s : FState α) (cmd : Cmd α) (ep fr fz : Option α)
    (xy : List (Option α × Option α)) (out : List (Out α)) : Prop where
  exit : T.isMoveOf fz xy = true → hitOf s ep fr fz xy = false → s.excluding = true →
    out = (T.exitExcludedRegion cfg (tracked s ep fr fz xy)).2
  pass : T.isMoveOf fz xy = true → hitOf s ep fr fz xy = false → s.excluding = false →
    Passes cmd out
  hit : hitOf s ep fr fz xy = true → Silent out
  held : T.isMoveOf fz xy = false → s.excluding = true → Silent out
  /-- `Silent` alone: a retraction that cancels an owed recovery, answered by `G92 E` -/
  nonmove : T.isMoveOf fz xy = false → s.excluding = false → Passes cmd out ∨ Silent out

theorem plm_outs (cfg : Config) (s : FState α) (cmd : Cmd α) (ep fr fz : Option α)
    (xy : List (Option α × Option α)) :
    PlmOuts cfg s cmd ep fr fz xy (fwdOf cmd (T.processLinearMoves cfg s cmd ep fr fz xy).2) := by
  -- in each of the five results all but one or two of the clauses are about other commands
  have no : ∀ {b : Bool} {P : Prop}, b = true → b = false → P :=
    fun h h' => Bool.noConfusion (h.symm.trans h')
  refine (plm_cases (motive := fun r => PlmOuts cfg s cmd ep fr fz xy r.2) cfg s cmd ep fr fz xy
    (fun hm => ?_) (fun hm hh => ?_) (fun hm hh hx => ?_) (fun hm hh hx _ => ?_)
    (fun hm hh hx _ => ?_)).elim fun r h => by rw [h.1, fwdOf_toResult]; exact h.2
  · have hn : NonMoveOuts s.excluding cmd _ :=
      nonMoveBody_outs (tracked s ep fr fz xy) cmd (T.deltaEOf s ep) (cur s.position.e)
    exact ⟨fun h => no h hm, fun h => no h hm, fun h => no (hitOf_isMove h) hm,
      fun _ hx => (hx ▸ hn).silent, fun _ _ => hn.passes_or_silent⟩
  · obtain ⟨more, e, hmore⟩ :=
      processExcludedMove_outs cfg (tracked s ep fr fz xy) cmd (T.deltaEOf s ep)
    refine ⟨fun _ h => no hh h, fun _ h => no hh h, fun _ => ?_, fun h => no hm h,
      fun h => no hm h⟩
    dsimp only
    rw [e]
    exact (ite_both Silent.nil (enterLines_silent cfg)).append
      fun o ho => (hmore o ho).eOnly
  · exact ⟨fun _ _ _ => rfl, fun _ _ h => no hx h, fun h => no h hh, fun h => no hm h,
      fun h => no hm h⟩
  · exact ⟨fun _ _ h => no h hx, fun _ _ _ => recoverBranch_passes _ cmd false _ hx,
      fun h => no h hh, fun h => no hm h, fun h => no hm h⟩
  · exact ⟨fun _ _ h => no h hx, fun _ _ _ => Passes.single cmd, fun h => no h hh,
      fun h => no hm h, fun h => no hm h⟩

theorem handleGcode_linear (cfg : Config) (inch : α) (s : FState α) {g : String} (cmd : Cmd α)
    (h : Code.ofString g = .G0 ∨ Code.ofString g = .G1) :
    T.handleGcode cfg inch s g cmd = T.handleG0 cfg s cmd := by
  unfold T.handleGcode
  rcases h with h | h <;> rw [h]

/-- centre offsets of an arc command: computed from `R`, or the `I`/`J` words -/
def arcCentre (s : FState α) (cmd : Cmd α) (cw : Bool) : α × α :=
  match lastValue cmd.words 'R' with
  | some r => T.computeArcCenterOffsets s.position
      ((lastValue cmd.words 'X').getD (n2l s.position.x))
      ((lastValue cmd.words 'Y').getD (n2l s.position.y)) r cw
  | none => ((lastValue cmd.words 'I').getD 0, (lastValue cmd.words 'J').getD 0)

/-- is the arc executed at all? (`_handle_G2` skips an arc whose centre is the start point) -/
def arcRuns (s : FState α) (cmd : Cmd α) (cw : Bool) : Bool :=
  !((arcCentre s cmd cw).1 == 0) || !((arcCentre s cmd cw).2 == 0)

/-- the sample points an executed arc hands to `processLinearMoves` -/
def arcPoints (s : FState α) (cmd : Cmd α) (cw : Bool) : List (Option α × Option α) :=
  (T.planArc s.position ((lastValue cmd.words 'X').getD (n2l s.position.x))
    ((lastValue cmd.words 'Y').getD (n2l s.position.y))
    (arcCentre s cmd cw).1 (arcCentre s cmd cw).2 cw).map fun (a, b) => (some a, some b)

theorem arcCentre_ij (s : FState α) (cmd : Cmd α) (cw : Bool) (hr : lastValue cmd.words 'R' = none) :
    arcCentre s cmd cw = ((lastValue cmd.words 'I').getD 0, (lastValue cmd.words 'J').getD 0) := by
  rw [arcCentre, hr]

theorem arcPoints_eq_snoc (s : FState α) (cmd : Cmd α) (cw : Bool) :
    ∃ pts, arcPoints s cmd cw =
      (pts ++ [((lastValue cmd.words 'X').getD (n2l s.position.x),
        (lastValue cmd.words 'Y').getD (n2l s.position.y))]).map fun (a, b) => (some a, some b) :=
  ⟨_, rfl⟩

theorem handleG2_eq (cfg : Config) (s : FState α) (cmd : Cmd α) (cw : Bool) :
    T.handleG2 cfg s cmd cw =
      if arcRuns s cmd cw then
        T.processLinearMoves cfg s cmd (lastValue cmd.words 'E') (lastValue cmd.words 'F')
          (some ((lastValue cmd.words 'Z').getD (n2l s.position.z))) (arcPoints s cmd cw)
      else (s, .none) := by
  unfold T.handleG2 arcRuns arcPoints arcCentre
  dsimp only
  cases lastValue cmd.words 'R' <;> rfl

theorem handleG2_cases {motive : FState α × Result α → Prop} (cfg : Config) (s : FState α)
    (cmd : Cmd α) (cw : Bool) (skip : motive (s, .none))
    (move : ∀ ep fr fz xy, motive (T.processLinearMoves cfg s cmd ep fr fz xy)) :
    motive (T.handleG2 cfg s cmd cw) := by
  rw [handleG2_eq]
  split
  · exact move _ _ _ _
  · exact skip

/-- **`handleGcode` by the kind of command** (finer than `handleGcode_cases` of Lemmas/Ctrl);
`axes`: the axes and the unit alone change. -/
theorem handleGcode_kinds {motive : FState α × Result α → Prop} (cfg : Config) (inch : α)
    (s : FState α) (g : String) (cmd : Cmd α) (skip : motive (s, .none))
    (move : (Code.ofString g = .G0 ∨ Code.ofString g = .G1 ∨ Code.ofString g = .G2 ∨
      Code.ofString g = .G3) → ∀ ep fr fz xy, motive (T.processLinearMoves cfg s cmd ep fr fz xy))
    (g10 : motive (T.toResult (T.recordRetraction s
      { firmwareRetract := true, extrusionAmount := none, feedRate := none,
        originalCommand := cmd })))
    (g11 : motive (T.toResult (T.recoverRetractionIfNeeded s cmd true)))
    (axes : ∀ p u, motive ({ s with position := p, feedRateUnitMultiplier := u }, .none))
    (other : motive (s.processExtendedGcode cfg cmd g)) :
    motive (T.handleGcode cfg inch s g cmd) := by
  unfold T.handleGcode
  cases hc : Code.ofString g with
  | G0 => exact move (.inl hc) _ _ _ _
  | G1 => exact move (.inr (.inl hc)) _ _ _ _
  | G2 => exact handleG2_cases cfg s cmd true skip (move (.inr (.inr (.inl hc))))
  | G3 => exact handleG2_cases cfg s cmd false skip (move (.inr (.inr (.inr hc))))
  | G10 => exact handleG10_cases s cmd skip g10
  | G11 => exact g11
  | G28 => exact handleG28_eq s cmd ▸ axes _ _
  | G90 => exact setAbsoluteMode_eq cfg s true ▸ axes _ _
  | G91 => exact setAbsoluteMode_eq cfg s false ▸ axes _ _
  | other n => exact other
  | _ => exact axes _ _

/-- **The flag of the point loop, in closed form**: some tested native point lies in an enabled
region. -/
theorem isAnyLoop_snd (xy : List (Option α × Option α)) (s : FState α) (any : Bool) :
    (T.isAnyLoop s xy any).2 = (any || (s.exclusionEnabled &&
      (loopPoints s.position.x s.position.y xy).any fun p =>
        T.anyContains s.excludedRegions p.1 p.2)) := by
  induction xy generalizing s any with
  | nil => simp only [T.isAnyLoop, loopPoints, List.any_nil, Bool.and_false, Bool.or_false]
  | cons p rest ih =>
    obtain ⟨px, py⟩ := p
    simp only [T.isAnyLoop, ih, loopPoints, List.any_cons, T.isPointExcluded,
      Bool.and_or_distrib_left, Bool.or_assoc]

theorem isAnyLoop_hit (pts : List (α × α)) (s : FState α) (any : Bool)
    (hx : s.position.x.absoluteMode = true) (hy : s.position.y.absoluteMode = true)
    (h : ∃ q ∈ pts, T.isPointExcluded s
      (q.1 * s.position.x.unitMultiplier + (s.position.x.offset + s.position.x.homeOffset))
      (q.2 * s.position.y.unitMultiplier + (s.position.y.offset + s.position.y.homeOffset)) = true) :
    (T.isAnyLoop s (pts.map fun (a, b) => (some a, some b)) any).2 = true := by
  obtain ⟨q, hq, hex⟩ := h
  obtain ⟨he, hc⟩ := Bool.and_eq_true_iff.mp hex
  rw [isAnyLoop_snd, loopPoints_abs _ _ _ hx hy, he, Bool.true_and, Bool.or_eq_true]
  exact .inr (List.any_eq_true.mpr ⟨_, List.mem_map_of_mem hq, hc⟩)

theorem hitOf_eq (s : FState α) (ep fr fz : Option α) (xy : List (Option α × Option α)) :
    hitOf s ep fr fz xy = (T.isMoveOf fz xy && (s.exclusionEnabled &&
      (loopPoints s.position.x s.position.y xy).any fun p =>
        T.anyContains s.excludedRegions p.1 p.2)) := by
  rw [hitOf, isAnyLoop_snd, applyEZF_eq]
  rfl

theorem hitOf_of_disabled (s : FState α) (ep fr fz : Option α) (xy : List (Option α × Option α))
    (h : s.exclusionEnabled = false) : hitOf s ep fr fz xy = false := by
  rw [hitOf_eq, h, Bool.false_and, Bool.and_false]

theorem hitOf_singleton (s : FState α) (ep fr fz px py : Option α) :
    hitOf s ep fr fz [(px, py)] =
      (T.isMoveOf fz [(px, py)] &&
        (s.exclusionEnabled && T.anyContains s.excludedRegions
          (cur (setLog s.position.x px)) (cur (setLog s.position.y py)))) := by
  rw [hitOf_eq]
  simp only [loopPoints, List.any_cons, List.any_nil, Bool.or_false]

end ERP
