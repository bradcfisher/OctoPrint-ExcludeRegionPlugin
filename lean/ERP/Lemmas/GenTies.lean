import ERP.Lemmas.GenGeometry
import ERP.Lemmas.GenArith
import ERP.Lemmas.GenConsts
import ERP.Lemmas.GenTemplates
/-! # All ties between translated source and hand-written model

Every property module except C18's reaches this file, whether or not it uses a `gen_*` lemma: a
deliberate over-approximation, so that a change to any translated piece of the source breaks the
build of each of them.  The tie files and several property files set
`linter.unusedSectionVars false`: the instance binders of their stated results are the section's,
used or not. -/
