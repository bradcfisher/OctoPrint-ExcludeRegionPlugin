import ERP.Lemmas.Invariant
/-! # The dialect, and what every event of it preserves

`Dialect` names the commands the motion theorems are about. `gcode_xyz_kinds` walks `handleGcode`
next to the reference printer once: a command is an executed move, leaves X, Y and Z alone in both,
or acts on them by one map in both. `gcode_inv` (hence `step_inv`: every event preserves `WF` and
`InvXYZ`) and `track_gcode` (the filter's X, Y and Z axes follow the reference printer that executes
the unfiltered command) are its two readings. -/
namespace ERP
open T Spec

section
variable {α : Type}

/-- The commands the motion theorems are about (C01/C03 "supported dialect"): G92 only without
X/Y/Z values and no M206 (known finding K-D15), arcs only in absolute positioning and in I/J form
(K-D5, K-D10), no homing while an episode is open (K-D18); the command's code is the `gcode` it is
dispatched on. -/
def Dialect (s : FState α) (g : String) (c : Cmd α) : Prop :=
  c.code = g ∧
  match Code.ofString g with
  | .G92 => ∀ kv ∈ c.words, kv.2 ≠ none → kv.1 ≠ 'X' ∧ kv.1 ≠ 'Y' ∧ kv.1 ≠ 'Z'
  | .M206 => False
  | .G2 | .G3 => s.position.x.absoluteMode = true ∧ s.position.y.absoluteMode = true ∧
      s.position.z.absoluteMode = true ∧ lastValue c.words 'R' = none
  | .G28 => s.excluding = false
  | _ => True

/-- no X, Y or Z word carries a value (the `G92` of the dialect) -/
def NoXYZ (w : List (Char × Option α)) : Prop :=
  ∀ kv ∈ w, kv.2 ≠ none → kv.1 ≠ 'X' ∧ kv.1 ≠ 'Y' ∧ kv.1 ≠ 'Z'

/-- `F` reads and writes X, Y and Z through X, Y and Z alone and — when `held` — changes their
frames, not where the tool stands -/
structure XYZMap (held : Prop) (F : Position α → Position α) : Prop where
  congr : ∀ {p q}, XYZeq p q → XYZeq (F p) (F q)
  hold : held → ∀ q lp, XYZeq (F (hold q lp)) (hold (F q) lp)

end

variable {α : Type} [Field α]

theorem loopAxis_abs (a : Axis α) (habs : a.absoluteMode = true) (vs : List (Option α)) (v : α) :
    loopAxis a (vs ++ [some v]) = setLog a (some v) := by
  obtain ⟨h1, h2, h3, h4⟩ := loopAxis_frame a vs
  rw [loopAxis, List.foldl_append]
  show setLog (loopAxis a vs) (some v) = _
  simp only [setLog, l2n, h1, h2, h3, h4, habs, if_true]

theorem g92Step_xyz (p : Position α) (k : Char) (v : Option α)
    (h : v ≠ none → k ≠ 'X' ∧ k ≠ 'Y' ∧ k ≠ 'Z') : XYZeq (T.g92Step p (k, v)) p := by
  cases v with
  | none => exact XYZeq.refl _
  | some v =>
    obtain ⟨n1, n2, n3⟩ := h (Option.some_ne_none v)
    simp only [T.g92Step, beq_iff_eq, n1, n2, n3, if_false]
    split <;> exact ⟨rfl, rfl, rfl⟩

theorem g92_xyz_unchanged (w : List (Char × Option α)) (hd : NoXYZ w) :
    ∀ p : Position α, XYZeq (w.foldl T.g92Step p) p := by
  induction w with
  | nil => intro p; exact XYZeq.refl _
  | cons kv rest ih =>
    intro p
    exact (ih (fun kv' hkv' => hd kv' (List.mem_cons_of_mem _ hkv')) _).trans
      (g92Step_xyz p kv.1 kv.2 (hd kv List.mem_cons_self))

variable [LinearOrder α]

theorem g92_exec_xyz (w : List (Char × Option α)) (hd : NoXYZ w) (g90e : Bool) (inch : α)
    (p : Printer α) : XYZeq (p.exec g90e inch .G92 w).pos p.pos := by
  have hX := lastValue_none_of w 'X' (fun kv hkv hv => (hd kv hkv hv).1)
  have hY := lastValue_none_of w 'Y' (fun kv hkv hv => (hd kv hkv hv).2.1)
  have hZ := lastValue_none_of w 'Z' (fun kv hkv hv => (hd kv hkv hv).2.2)
  simp only [Printer.exec, hX, hY, hZ, rebase]
  exact ⟨rfl, rfl, rfl⟩

/-- a command that the printer executes without touching X, Y, Z or their frames -/
def NeutralCmd (g90e : Bool) (inch : α) (cmd : Cmd α) : Prop :=
  ∀ p : Printer α, XYZeq (p.execOut g90e inch (.orig cmd)).pos p.pos

theorem exec_neutral {cmd : Cmd α} {l : List (Out α)} (h : Passes cmd l ∨ Silent l) {g90e : Bool}
    {inch : α} (hn : NeutralCmd g90e inch cmd) (p : Printer α) :
    XYZeq (p.execOuts g90e inch l).pos p.pos := by
  rcases h with ⟨pre, rfl, hE⟩ | hs
  · rw [execOuts_append]
    exact (hn _).trans (hE.exec g90e inch p)
  · exact hs.exec g90e inch p

theorem linear_tracks (p : Printer α) (q : Position α) (X Y Z E : Option α) (h : XYZeq p.pos q) :
    XYZeq (p.linear X Y Z E).pos (movedPos q E Z [(X, Y)]) := by
  obtain ⟨hx, hy, hz⟩ := h
  exact ⟨(moveAxis_eq_setLog _ X).trans (by rw [hx]; rfl),
    (moveAxis_eq_setLog _ Y).trans (by rw [hy]; rfl), (moveAxis_eq_setLog _ Z).trans (by rw [hz]; rfl)⟩

/-- in absolute mode (as the dialect requires) the last sample alone decides where the point loop
leaves X and Y, and an omitted X, Y or Z word — for which the handler substitutes the current
logical value — leaves the axis where it is -/
theorem arc_tracks (p : Printer α) (q : Position α) (hq : PosOk q) (ax : q.x.absoluteMode = true)
    (ay : q.y.absoluteMode = true) (az : q.z.absoluteMode = true) (X Y Z E : Option α)
    {xy : List (Option α × Option α)}
    (hxy : ∃ pts : List (α × α), xy =
      (pts ++ [(X.getD (n2l q.x), Y.getD (n2l q.y))]).map fun (a, b) => (some a, some b))
    (h : XYZeq p.pos q) :
    XYZeq (p.linear X Y Z E).pos (movedPos q E (some (Z.getD (n2l q.z))) xy) := by
  obtain ⟨pts, rfl⟩ := hxy
  refine (linear_tracks p q X Y Z E h).trans ⟨?_, ?_, ?_⟩ <;>
    simp only [movedPos, List.map_append, List.map_cons, List.map_nil, loopAxis_abs _ ax,
      loopAxis_abs _ ay, setLog_getD_abs _ hq.x ax, setLog_getD_abs _ hq.y ay,
      setLog_getD_abs _ hq.z az]
  all_goals rfl

theorem InvXYZ.of_axes {g90e : Bool} {inch : α} {s : FState α} {phys : Printer α} {cmd : Cmd α}
    {F : Position α → Position α} {p' : Position α} {u : α} (hinv : InvXYZ s phys) (h : WF s)
    (hF : XYZMap (s.excluding = true) F)
    (hexec : ∀ p : Printer α, XYZeq (p.execOut g90e inch (.orig cmd)).pos (F p.pos))
    (hp' : XYZeq p' (F s.position)) :
    InvXYZ { s with position := p', feedRateUnitMultiplier := u }
      (phys.execOuts g90e inch [.orig cmd]) := by
  cases hx : s.excluding
  · exact .mk_free rfl ((hexec phys).trans ((hF.congr (hinv.free hx)).trans hp'.symm')) hinv.pend
  · obtain ⟨lp, hlp, -⟩ := h.lastPos hx
    exact .mk_held rfl hlp ((hexec phys).trans ((hF.congr (hinv.held hx hlp)).trans
      ((hF.hold hx _ lp).trans (hp'.hold lp).symm'))) hinv.pend

section
variable [MathOps α]

/-- **`handleGcode` next to the reference printer, as far as X, Y and Z go.** -/
theorem gcode_xyz_kinds {motive : FState α × Result α → Prop} (cfg : Config) (inch : α)
    (s : FState α) (g : String) (cmd : Cmd α) (h : WF s) (hd : Dialect s g cmd)
    (move : ∀ ep fr fz xy,
      (∀ p : Printer α, XYZeq p.pos s.position →
        XYZeq (p.execOut cfg.g90InfluencesExtruder inch (.orig cmd)).pos
          (movedPos s.position ep fz xy)) →
      motive (T.processLinearMoves cfg s cmd ep fr fz xy))
    (neutral : NeutralCmd cfg.g90InfluencesExtruder inch cmd → ∀ r : FState α × Result α,
      XYZeq r.1.position s.position → SameCtrl s r.1 → (PendingNeutral s → PendingNeutral r.1) →
      Passes cmd (fwdOf cmd r.2) ∨ Silent (fwdOf cmd r.2) → motive r)
    (axes : ∀ (F : Position α → Position α) p' u, XYZMap (s.excluding = true) F →
      (∀ p : Printer α,
        XYZeq (p.execOut cfg.g90InfluencesExtruder inch (.orig cmd)).pos (F p.pos)) →
      XYZeq p' (F s.position) →
      motive ({ s with position := p', feedRateUnitMultiplier := u }, .none)) :
    motive (T.handleGcode cfg inch s g cmd) := by
  obtain ⟨hcode, hd⟩ := hd
  unfold T.handleGcode
  generalize hcg : Code.ofString g = c at hd
  have hexec : ∀ p : Printer α, p.execOut cfg.g90InfluencesExtruder inch (.orig cmd) =
      p.exec cfg.g90InfluencesExtruder inch c cmd.words := fun p => by rw [← hcg, ← hcode]; rfl
  have arc : ∀ cw, s.position.x.absoluteMode = true ∧ s.position.y.absoluteMode = true ∧
      s.position.z.absoluteMode = true ∧ lastValue cmd.words 'R' = none →
      (∀ p : Printer α, p.exec cfg.g90InfluencesExtruder inch c cmd.words =
        if arcRuns s cmd cw then p.linear (lastValue cmd.words 'X') (lastValue cmd.words 'Y')
          (lastValue cmd.words 'Z') (lastValue cmd.words 'E') else p) →
      motive (T.handleG2 cfg s cmd cw) := by
    rintro cw ⟨hax, hay, haz, hr⟩ e
    rw [handleG2_eq]
    split
    · rename_i hij
      refine move _ _ _ _ fun p hp => ?_
      rw [hexec, e, if_pos hij]
      exact arc_tracks p s.position h.pos hax hay haz _ _ _ _ (arcPoints_eq_snoc s cmd cw) hp
    · rename_i hij
      exact neutral (fun p => by rw [hexec, e, if_neg hij]; exact XYZeq.refl _) _ (XYZeq.refl _)
        ⟨rfl, rfl, rfl, rfl⟩ id (.inl (Passes.single cmd))
  -- `G10`, `G11`: the retraction bookkeeping, which forwards the command or E-only commands
  have retr : NeutralCmd cfg.g90InfluencesExtruder inch cmd → ∀ r : FState α × List (Out α),
      ETouch s r.1 → NonMoveOuts s.excluding cmd r.2 → motive (T.toResult r) := fun hn r ht ho =>
    neutral hn _ (by rw [toResult_fst, ht.frame_e]; exact XYZeq.refl _)
      (toResult_fst _ ▸ ht.sameCtrl) (fun hp e he => hp e (by rwa [toResult_fst, ht.pending] at he))
      (by rw [fwdOf_toResult]; exact ho.passes_or_silent)
  have units : ∀ u : α, (∀ p : Printer α,
        XYZeq (p.execOut cfg.g90InfluencesExtruder inch (.orig cmd)).pos (p.pos.setUnitMultiplier u)) →
      motive (s.setUnitMultiplier u, .none) := fun u he =>
    axes (·.setUnitMultiplier u) _ _
      ⟨fun ⟨hx, hy, hz⟩ => by simp only [Position.setUnitMultiplier, XYZeq, hx, hy, hz, and_self],
        fun _ _ _ => ⟨rfl, rfl, rfl⟩⟩ he (XYZeq.refl _)
  have modes : ∀ b, (∀ p : Printer α,
        XYZeq (p.execOut cfg.g90InfluencesExtruder inch (.orig cmd)).pos
          (p.pos.setPositionAbsoluteMode b)) →
      motive (s.setAbsoluteMode cfg b, .none) := fun b he =>
    setAbsoluteMode_eq cfg s b ▸ axes (·.setPositionAbsoluteMode b) _ s.feedRateUnitMultiplier
      ⟨fun ⟨hx, hy, hz⟩ => by
          simp only [Position.setPositionAbsoluteMode, XYZeq, hx, hy, hz, and_self],
        fun _ _ _ => ⟨rfl, rfl, rfl⟩⟩ he ⟨rfl, rfl, rfl⟩
  cases c with
  | G0 | G1 =>
    exact move _ _ _ _ fun p hp => by
      rw [hexec]; exact linear_tracks p _ _ _ _ _ hp
  | G2 | G3 =>
    refine arc _ hd fun p => ?_
    rw [arcRuns, arcCentre_ij s cmd _ hd.2.2.2]
    rfl
  | G10 =>
    have hn : NeutralCmd cfg.g90InfluencesExtruder inch cmd := fun p => by
      rw [hexec]; simp only [Printer.exec]; split <;> exact XYZeq.refl _
    refine handleG10_cases s cmd
      (neutral hn _ (XYZeq.refl _) ⟨rfl, rfl, rfl, rfl⟩ id (.inl (Passes.single cmd))) ?_
    -- the record is named so that nothing below is unified against the structure literal
    generalize hr : ({ firmwareRetract := true, extrusionAmount := none, feedRate := none,
                       originalCommand := cmd } : Retraction α) = r
    have hc : r.originalCommand = cmd := hr ▸ rfl
    exact retr hn _ (recordRetraction_touch s r) (hc ▸ recordRetraction_outs s r)
  | G11 =>
    exact retr (fun p => by rw [hexec]; exact XYZeq.refl _) _ (recoverIfNeeded_touch s cmd true)
      (recoverIfNeeded_outs s cmd true)
  | G20 => exact units inch fun p => by rw [hexec]; exact XYZeq.refl _
  | G21 => exact units 1 fun p => by rw [hexec]; exact XYZeq.refl _
  | G28 =>
    -- only outside an episode (dialect)
    have hne : s.excluding = false := hd
    exact axes (fun q => (handleG28 { s with position := q } cmd).position) _ s.feedRateUnitMultiplier
      ⟨fun ⟨hx, hy, hz⟩ => by simp only [handleG28_eq, XYZeq, hx, hy, hz, and_self],
        fun hx => absurd (hne ▸ hx) Bool.false_ne_true⟩
      (fun p => by rw [hexec, handleG28_eq]; exact ⟨rfl, rfl, rfl⟩) (XYZeq.refl _)
  | G90 =>
    exact modes true fun p => by
      rw [hexec]; simp only [Printer.exec]; split <;> exact ⟨rfl, rfl, rfl⟩
  | G91 =>
    exact modes false fun p => by
      rw [hexec]; simp only [Printer.exec]; split <;> exact ⟨rfl, rfl, rfl⟩
  | G92 =>
    exact neutral (fun p => by rw [hexec]; exact g92_exec_xyz cmd.words hd _ inch p)
      ({ s with position := cmd.words.foldl T.g92Step s.position }, .none)
      (g92_xyz_unchanged cmd.words hd s.position) ⟨rfl, rfl, rfl, rfl⟩ id (.inl (Passes.single cmd))
  | M206 => exact hd.elim
  | other n =>
    have hf := processExtendedGcode_frame cfg s cmd g
    refine neutral (fun p => by rw [hexec]; exact XYZeq.refl _) _ (by rw [hf]; exact XYZeq.refl _)
      (by rw [hf]; exact ⟨rfl, rfl, rfl, rfl⟩)
      (fun hp => processExtendedGcode_neutral cfg s cmd g hp ⟨n, by rw [hcode, hcg]⟩) ?_
    rcases processExtendedGcode_cases cfg s cmd g with e | ⟨-, m, e⟩ <;> rw [e]
    · exact .inl (Passes.single cmd)
    · exact .inr Silent.nil

/-- **One G-code command of the dialect preserves the invariant.** -/
theorem gcode_inv (cfg : Config) (inch : α) (s : FState α) (phys : Printer α) (g : String) (cmd : Cmd α)
    (h : WF s) (hinv : InvXYZ s phys) (hd : Dialect s g cmd) :
    InvXYZ (T.handleGcode cfg inch s g cmd).1
      (phys.execOuts cfg.g90InfluencesExtruder inch (fwdOf cmd (T.handleGcode cfg inch s g cmd).2)) :=
  gcode_xyz_kinds
    (motive := fun r => InvXYZ r.1 (phys.execOuts cfg.g90InfluencesExtruder inch (fwdOf cmd r.2)))
    cfg inch s g cmd h hd (fun ep fr fz xy => plm_inv _ inch cfg s phys cmd ep fr fz xy h hinv)
    (fun hn _ hp hc hpn hout =>
      hinv.congr (exec_neutral hout hn phys) hp hc.excluding hc.lastPos (hpn hinv.pend))
    fun _ _ _ hF hx hp' => hinv.of_axes h hF hx hp'

theorem disable_inv (g90e : Bool) (inch : α) (cfg : Config) (s : FState α) (phys : Printer α)
    (h : WF s) (hinv : InvXYZ s phys) :
    InvXYZ (T.disableExclusion cfg s).1 (phys.execOuts g90e inch (T.disableExclusion cfg s).2) := by
  have hi : InvXYZ ({ s with exclusionEnabled := false } : FState α) phys := hinv.of_core rfl
  rw [disableExclusion_eq]
  split
  · split
    · rename_i hex
      have hst := exitExcludedRegion_fst cfg ({ s with exclusionEnabled := false } : FState α)
      rw [if_pos hex] at hst
      exact .mk_free (by rw [hst])
        (by rw [hst]; exact exit_resync g90e inch cfg _ phys (h.of_core rfl) hi hex)
        (by rw [hst]; exact List.forall_mem_nil _)
    · exact hi
  · exact hinv

theorem at_inv (g90e : Bool) (inch : α) (cfg : Config) (s : FState α) (phys : Printer α) (streaming : Bool)
    (cmd : String) (ps : Text) (h : WF s) (hinv : InvXYZ s phys) :
    InvXYZ (T.handleAtCommand cfg s streaming cmd ps).1
      (phys.execOuts g90e inch (T.handleAtCommand cfg s streaming cmd ps).2.2) :=
  (handleAtCommand_induction (motive := fun s' sent => WF s' ∧ InvXYZ s' (phys.execOuts g90e inch sent))
    cfg s streaming cmd ps ⟨h, hinv⟩ (fun _ _ hi => ⟨hi.1.of_core rfl, hi.2.of_core rfl⟩)
    fun s' sent hi => ⟨disableExclusion_WF cfg s' hi.1, by
      rw [execOuts_append]
      exact disable_inv g90e inch cfg s' _ hi.1 hi.2⟩).2

end

variable [IsStrictOrderedRing α] [MathOps α] [MathSpec α]

def DialectEv (s : FState α) : Ev α → Prop
  | .gcode g c => Dialect s g c
  | _ => True

/-- **Every event preserves well-formedness and the printer invariant.** -/
theorem step_inv (cfg : Config) (inch : α) (hinch : inch ≠ 0) (s : FState α) (phys : Printer α) (e : Ev α)
    (h : WF s) (hinv : InvXYZ s phys) (hd : DialectEv s e) :
    WF (stepT cfg inch s e).1 ∧
    InvXYZ (stepT cfg inch s e).1
      (phys.execOuts cfg.g90InfluencesExtruder inch (Emit.forwarded e (stepT cfg inch s e).2)) := by
  cases e with
  | gcode g c =>
    obtain ⟨_, hw, _⟩ := handleGcode_ok cfg inch hinch s g c h
    exact ⟨hw, forwarded_gcode g c _ ▸ gcode_inv cfg inch s phys g c h hinv hd⟩
  | atCmd st cmd ps =>
    exact ⟨(handleAtCommand_ok cfg s st cmd ps h).2, at_inv _ inch cfg s phys st cmd ps h hinv⟩
  | addRegion r =>
    simp only [stepT]
    cases hr : s.addRegion r with
    | error _ => exact ⟨h, hinv⟩
    | ok s' =>
      exact ⟨addRegion_WF h hr, addRegion_eq hr ▸ hinv.of_core rfl⟩

set_option linter.unusedSectionVars false in
/-- **Tracking.** The filter's X/Y/Z axes follow the reference printer executing the unfiltered
command — inside and outside episodes, whether or not exclusion is enabled. -/
theorem track_gcode (cfg : Config) (inch : α) (s : FState α) (virt : Printer α) (g : String) (cmd : Cmd α)
    (h : WF s) (hd : Dialect s g cmd) (ht : XYZeq s.position virt.pos) :
    XYZeq (T.handleGcode cfg inch s g cmd).1.position
      (virt.exec cfg.g90InfluencesExtruder inch (Code.ofString g) cmd.words).pos := by
  have e : virt.exec cfg.g90InfluencesExtruder inch (Code.ofString g) cmd.words =
      virt.execOut cfg.g90InfluencesExtruder inch (.orig cmd) := by rw [← hd.1]; rfl
  rw [e]
  exact gcode_xyz_kinds
    (motive := fun r => XYZeq r.1.position (virt.execOut cfg.g90InfluencesExtruder inch (.orig cmd)).pos)
    cfg inch s g cmd h hd
    (fun ep fr fz xy hx => by
      rw [plm_pos cfg s cmd ep fr fz xy h.pos.e]; exact (hx virt ht.symm').symm')
    (fun hn _ hp _ _ _ => hp.trans (ht.trans (hn virt).symm'))
    fun _ _ _ hF hx hp' => hp'.trans ((hF.congr ht).trans (hx virt).symm')

end ERP
