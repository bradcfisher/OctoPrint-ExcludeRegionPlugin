import ERP.Lemmas.ParamScan
import ERP.Lemmas.LineTotal
/-! # Exact evaluation of `REGEX_GCODE_LINE`, part by part

Towards C18(3): re-parsing a normalised command string gives back its fields.  The regex regenerated
from the source is cut into named parts (`gcodeLine_parts`); for each part a rule says what the
backtracking matcher returns first on a text of the shape
`blanks [N<digits> ' '] <letter><digits>[.<digits>] [' ' parameters] [' *' digits]`, the shape being
given by class tests and runs at positions (`passes`, `ClsRun`, `DigitRun`).  `Reparse.lean` supplies
the positions for a rendered command and chains the rules. -/
namespace ERP.Rx

/-- `\d`; `DIG` of ParamScan is `[0-9]`, a range -/
abbrev DIGc : List CC := [.cat "digit"]
abbrev NLc : List CC := [.lit (Char.ofNat 78), .lit (Char.ofNat 110)]
abbrev GMc : List CC := [.lit (Char.ofNat 71), .lit (Char.ofNat 103), .lit (Char.ofNat 77), .lit (Char.ofNat 109)]
abbrev TTc : List CC := [.lit (Char.ofNat 84), .lit (Char.ofNat 116)]
abbrev STARc : List CC := [.lit (Char.ofNat 42)]
abbrev BSc : List CC := [.lit (Char.ofNat 92)]
abbrev PSTOP : List CC := [.lit (Char.ofNat 59), .lit (Char.ofNat 42), .lit (Char.ofNat 13), .lit (Char.ofNat 10)]

/-- `WS` of LineTotal, spelt with `SP` -/
def WSr : Re := .rep true 0 none (.chars false SP)
def PLUSDc : Re := .rep true 1 none (.chars false DIGc)
def OPTN : Re := .rep true 0 (some 1) (.seq (.chars false NLc) (.group 3 PLUSDc))
def OPTSUB : Re := .rep true 0 (some 1) (.seq (.chars false DOT) (.group 6 PLUSDc))
def CODEr : Re :=
  .alt (.seq (.group 4 (.chars false GMc)) (.seq WSr (.seq (.group 5 PLUSDc) OPTSUB)))
    (.seq (.group 7 (.chars false TTc)) (.seq WSr (.group 8 PLUSDc)))
def PCHAR : Re :=
  .alt (.seq (.chars false BSc) (.chars false BSc)) (.alt (.seq (.chars false BSc) (.chars false SEMIc)) (.chars true PSTOP))
def OPTP : Re := .rep true 0 (some 1) (.group 9 (.rep false 1 none PCHAR))
def OPTCK : Re := .rep true 0 (some 1) (.seq (.chars false STARc) (.group 10 PLUSDc))
def BODYA : Re := .seq OPTN (.seq WSr (.seq CODEr (.seq WSr (.seq OPTP (.seq WSr OPTCK)))))
def TAIL2 : Re := .seq (.group 11 WSr) (.seq COMMENT EOL)

theorem gcodeLine_parts : Gen.gcodeLine = .seq (.group 1 WSr) (.seq (.group 2 (.alt BODYA CATCH)) TAIL2) := rfl

theorem pstop_test (ch : Char) :
    (PSTOP.any (CC.test ch) != true) = true ↔ ch ≠ ';' ∧ ch ≠ '*' ∧ ch ≠ '\r' ∧ ch ≠ '\n' := by
  simp only [PSTOP, List.any_cons, List.any_nil, CC.test, Bool.or_false, bne_iff_ne, ne_eq, Bool.or_eq_true,
    beq_iff_eq, not_or]

theorem pchar_onestep (ctx : Ctx) (hnb : ∀ i, passes ctx false BSc i = false) :
    OneStep ctx PCHAR (fun p => passes ctx true PSTOP p) := by
  intro R p c k
  unfold PCHAR
  simp only [m_alt, m_seq, m_chars, hnb, Bool.false_eq_true, if_false, orElse'_none]

/-- at the end of the text there is no blank, no `;`, no CR or LF: only `\Z` matches -/
theorem tail2_at_end (ctx : Ctx) (c : Caps) :
    m ctx TAIL2 ctx.s.size c (fun p c => some (p, c)) =
      some (ctx.s.size, (13, ctx.s.size, ctx.s.size) :: (11, ctx.s.size, ctx.s.size) :: c) := by
  rw [TAIL2, m_seq, m_group, WSr, m_star_empty (passes_end ctx false SP), m_seq, COMMENT,
    m_opt_greedy ctx _ _ _ _ (Nat.le_refl _), m_group, m_seq, m_chars_end, orElse'_none, EOL, m_group, m_alt, m_seq,
    m_chars_end, orElse'_none, m_alt, m_chars_end, orElse'_none, m_alt, m_chars_end, orElse'_none, m_at,
    if_pos ((atOk_end_string ctx _).mpr rfl)]

/-- a digit run `[p, e)`, non-empty, followed by a non-digit (`le` is `ClsRun.inside`, not `ClsRun.le`) -/
structure DigitRun (ctx : Ctx) (p e : Nat) : Prop where
  nonempty : p < e
  le : e ≤ ctx.s.size
  digits : ∀ i, p ≤ i → i < e → passes ctx false DIGc i = true
  stop : passes ctx false DIGc e = false

theorem DigitRun.run {ctx : Ctx} {p e : Nat} (h : DigitRun ctx p e) : ClsRun ctx false DIGc p e :=
  ⟨Nat.le_of_lt h.nonempty, h.le, h.digits, h.stop⟩

section
variable {R : Type} {ctx : Ctx} {items : List CC} {g p e a d1 : Nat} {c : Caps} {k : Nat → Caps → Option R} {res : R}

theorem group_digits (hr : DigitRun ctx p e) (hk : k e ((g, p, e) :: c) = some res) :
    m ctx (.group g PLUSDc) p c k = some res := by
  rw [m_group]
  exact m_plus_max (hr.digits p (Nat.le_refl _) hr.nonempty) hr.run hk

theorem opt_digits (hx : passes ctx false items p = true) (hr : DigitRun ctx (p + 1) e)
    (hk : k e ((g, p + 1, e) :: c) = some res) :
    m ctx (.rep true 0 (some 1) (.seq (.chars false items) (.group g PLUSDc))) p c k = some res := by
  rw [m_opt_greedy ctx _ p c _ (Nat.le_of_lt (passes_lt hx)), m_seq, m_chars, if_pos hx]
  apply orElse'_some_left
  apply group_digits hr
  -- the guard of the optional: the digits consumed something
  rw [if_neg (by rw [beq_iff_eq]; exact Nat.ne_of_gt (Nat.lt_trans (Nat.lt_succ_self p) hr.nonempty))]
  exact hk

theorem opt_skip {r : Re} (hp : p ≤ ctx.s.size) (hx : passes ctx false items p = false) :
    m ctx (.rep true 0 (some 1) (.seq (.chars false items) r)) p c k = k p c := by
  rw [m_opt_greedy ctx _ p c _ hp, m_seq, m_chars, if_neg (by rw [hx]; exact Bool.false_ne_true), orElse'_none]

theorem code_gm (hty : passes ctx false GMc a = true) (hnsp : passes ctx false SP (a + 1) = false)
    (hcode : DigitRun ctx (a + 1) d1)
    (hk : m ctx OPTSUB d1 ((5, a + 1, d1) :: (4, a, a + 1) :: c) k = some res) :
    m ctx CODEr a c k = some res := by
  unfold CODEr
  rw [m_alt]
  apply orElse'_some_left
  rw [m_seq, m_group, m_chars, if_pos hty, m_seq]
  unfold WSr
  rw [m_star_empty hnsp, m_seq]
  exact group_digits hcode hk

theorem code_t (hgm : passes ctx false GMc a = false) (hty : passes ctx false TTc a = true)
    (hnsp : passes ctx false SP (a + 1) = false) (hcode : DigitRun ctx (a + 1) d1)
    (hk : k d1 ((8, a + 1, d1) :: (7, a, a + 1) :: c) = some res) :
    m ctx CODEr a c k = some res := by
  unfold CODEr
  rw [m_alt, m_seq, m_group, m_chars, if_neg (by rw [hgm]; exact Bool.false_ne_true), orElse'_none, m_seq, m_group,
    m_chars, if_pos hty, m_seq]
  unfold WSr
  rw [m_star_empty hnsp]
  exact group_digits hcode hk
end

/-! Three continuations name what is left of the regex after the code, inside group 2 (which started
at `p1`). -/

/-- after the blanks that follow the parameters: optional checksum, end of group 2, the rest -/
def ckK (ctx : Ctx) (p1 : Nat) : Nat → Caps → Option (Nat × Caps) :=
  fun p c => m ctx OPTCK p c (fun p' c' => m ctx TAIL2 p' ((2, p1, p') :: c') (fun p c => some (p, c)))

/-- after the parameters: blanks, then `ckK` -/
def tailK (ctx : Ctx) (p1 : Nat) : Nat → Caps → Option (Nat × Caps) :=
  fun p c => m ctx (.seq WSr OPTCK) p c (fun p' c' => m ctx TAIL2 p' ((2, p1, p') :: c') (fun p c => some (p, c)))

/-- after the code: blanks, optional parameters, then `tailK` -/
def restA (ctx : Ctx) (p1 : Nat) : Nat → Caps → Option (Nat × Caps) :=
  fun p c => m ctx (.seq WSr (.seq OPTP (.seq WSr OPTCK))) p c
    (fun p' c' => m ctx TAIL2 p' ((2, p1, p') :: c') (fun p c => some (p, c)))

/-- (by the equation of `seq`, not by `rfl`, which would unfold `m` on the named parts) -/
theorem restA_eq (ctx : Ctx) (p1 p : Nat) (c : Caps) :
    restA ctx p1 p c = m ctx WSr p c (fun p c => m ctx OPTP p c (tailK ctx p1)) :=
  (m_seq ctx p c _ WSr _).trans
    (congrArg (m ctx WSr p c) (funext fun p' => funext fun c' => m_seq ctx p' c' _ OPTP _))

theorem tailK_eq (ctx : Ctx) (p1 p : Nat) (c : Caps) : tailK ctx p1 p c = m ctx WSr p c (ckK ctx p1) :=
  m_seq ctx p c _ WSr OPTCK

theorem bodyA_eq (ctx : Ctx) (p1 p : Nat) (c : Caps) :
    m ctx BODYA p c (fun p' c' => m ctx TAIL2 p' ((2, p1, p') :: c') (fun p c => some (p, c))) =
      m ctx OPTN p c (fun p c => m ctx WSr p c (fun p c => m ctx CODEr p c (restA ctx p1))) := by
  unfold BODYA restA
  simp only [m_seq]

theorem ckK_end (ctx : Ctx) (p1 : Nat) (c : Caps) :
    ckK ctx p1 ctx.s.size c =
      some (ctx.s.size, (13, ctx.s.size, ctx.s.size) :: (11, ctx.s.size, ctx.s.size) :: (2, p1, ctx.s.size) :: c) := by
  unfold ckK OPTCK
  rw [opt_skip (Nat.le_refl _) (passes_end ctx false STARc)]
  exact tail2_at_end ctx _

theorem ckK_ck (ctx : Ctx) (p1 s' : Nat) (c : Caps)
    (hstar : passes ctx false STARc s' = true) (hrun : DigitRun ctx (s' + 1) ctx.s.size) :
    ckK ctx p1 s' c =
      some (ctx.s.size, (13, ctx.s.size, ctx.s.size) :: (11, ctx.s.size, ctx.s.size) :: (2, p1, ctx.s.size) ::
        (10, s' + 1, ctx.s.size) :: c) := by
  unfold ckK OPTCK
  exact opt_digits hstar hrun (tail2_at_end ctx _)

theorem tailK_of_run {ctx : Ctx} {p q : Nat} (hr : ClsRun ctx false SP p q) (p1 : Nat) (c : Caps)
    (res : Nat × Caps) (h : ckK ctx p1 q c = some res) : tailK ctx p1 p c = some res := by
  rw [tailK_eq]
  exact m_star_max hr h

/-- the tail cannot match while a visible plain character is still ahead: a success would have
consumed only blanks, and then needs a stop character (`; * CR LF`) or the end of the text -/
theorem tailK_none (ctx : Ctx) (p1 p j : Nat) (c : Caps)
    (hplain : ∀ i, p ≤ i → i ≤ j → passes ctx true PSTOP i = true)
    (hpj : p ≤ j) (hj : j < ctx.s.size) (hvis : passes ctx false SP j = false) :
    tailK ctx p1 p c = none := by
  cases hres : tailK ctx p1 p c with
  | none => rfl
  | some res =>
    exfalso
    unfold tailK at hres
    -- blanks can only lead up to `j`
    have upto : ∀ q q', q ≤ j → (∀ i, q ≤ i → i < q' → passes ctx false SP i = true) → q' ≤ j := by
      intro q q' hq hall
      rcases Nat.lt_or_ge j q' with hlt | hge
      · have := hall j hq hlt; rw [hvis] at this; cases this
      · exact hge
    -- and up to `j` no stop character is read
    have nostop : ∀ (a : Char) (q : Nat), (PSTOP.any (CC.test a) != true) = false → p ≤ q → q ≤ j →
        passes ctx false [.lit a] q = true → False :=
      fun a q ha h1 h2 ht => Bool.false_ne_true ((passes_not_lit (hplain q h1 h2) a ha).symm.trans ht)
    have w1 : WP ctx (.seq WSr OPTCK) p c (fun p' _ => p ≤ p' ∧ p' ≤ j) := by
      apply wp_seq
      unfold WSr
      apply wp_star
      intro p' hle hall
      have hp'j := upto p p' hpj hall
      unfold OPTCK
      apply wp_opt
      · exact ⟨hle, hp'j⟩
      · apply wp_seq
        apply wp_chars
        intro hst
        exact (nostop _ p' rfl hle hp'j hst).elim
    obtain ⟨p', c', ⟨hle, hp'j⟩, hk⟩ := w1 _ _ res hres
    have w2 : WP ctx TAIL2 p' ((2, p1, p') :: c') (fun _ _ => False) := by
      unfold TAIL2
      apply wp_seq
      apply wp_group
      unfold WSr
      apply wp_star
      intro p'' hle2 hall2
      have hp''j := upto p' p'' hp'j hall2
      have hpp'' : p ≤ p'' := Nat.le_trans hle hle2
      apply wp_seq
      unfold COMMENT
      apply wp_opt
      · exact wp_eol fun e he => he.elim
          (fun h => h.2.elim (nostop _ p'' rfl hpp'' hp''j) (nostop _ p'' rfl hpp'' hp''j))
          fun h => absurd hj (by omega)
      · apply wp_group
        apply wp_seq
        apply wp_chars
        intro ht
        exact (nostop _ p'' rfl hpp'' hp''j ht).elim
    obtain ⟨_, _, hf, _⟩ := w2 _ _ res hk
    exact hf

theorem optp_eq {R : Type} (ctx : Ctx) (hnb : ∀ i, passes ctx false BSc i = false) (q : Nat) (c : Caps)
    (tk : Nat → Caps → Option R) (hq : q ≤ ctx.s.size) :
    m ctx OPTP q c tk = orElse'
      (if passes ctx true PSTOP q then
        lazyG (fun p => passes ctx true PSTOP p) (fun p' c' => tk p' ((9, q, p') :: c')) c
          (ctx.s.size + 2 - q) (q + 1)
       else none) (fun _ => tk q c) := by
  unfold OPTP
  rw [m_opt_greedy ctx _ q c _ hq, m_group, m_lazyplus_eq ctx PCHAR _ (pchar_onestep ctx hnb) q c]
  -- the loop starts behind `q`, so the guard against an empty iteration never fires
  rw [lazyG_congr (k' := fun p' c' => tk p' ((9, q, p') :: c')) _ (q + 1) fun p' hp' =>
    if_neg (by rw [beq_iff_eq]; omega)]

theorem restA_skip {ctx : Ctx} {d2 q : Nat} (hr : ClsRun ctx false SP d2 q) (p1 : Nat) (c : Caps)
    (res : Nat × Caps) (hnb : ∀ i, passes ctx false BSc i = false)
    (hstop : passes ctx true PSTOP q = false) (hk : ckK ctx p1 q c = some res) :
    restA ctx p1 d2 c = some res := by
  rw [restA_eq]
  refine m_star_max hr ?_
  rw [optp_eq ctx hnb q c _ hr.inside, hstop, if_neg Bool.false_ne_true, orElse'_none]
  exact tailK_of_run (.nil hr.inside hr.stop) p1 c res hk

theorem optp_inversion {R : Type} (ctx : Ctx) (q : Nat) (c : Caps) (tk : Nat → Caps → Option R) (res : R)
    (hnb : ∀ i, passes ctx false BSc i = false) (hq : q ≤ ctx.s.size) (h : m ctx OPTP q c tk = some res) :
    tk q c = some res ∨
      ∃ e, q < e ∧ e ≤ ctx.s.size ∧ (∀ i, q ≤ i → i < e → passes ctx true PSTOP i = true) ∧
        tk e ((9, q, e) :: c) = some res ∧ ∀ i, q < i → i < e → tk i ((9, q, i) :: c) = none := by
  rw [optp_eq ctx hnb q c tk hq] at h
  rcases orElse'_some h with h | h
  · by_cases hok : passes ctx true PSTOP q = true
    · rw [if_pos hok] at h
      obtain ⟨e, he1, he2, he3⟩ := lazyG_spec _ _ c res _ _ h
      have hplain : ∀ i, q ≤ i → i < e → passes ctx true PSTOP i = true := fun i hi1 hi2 =>
        (Nat.eq_or_lt_of_le hi1).elim (· ▸ hok) fun hlt => (he2 i hlt hi2).1
      have he : e ≤ ctx.s.size := run_le_size hq (Nat.le_of_lt he1) hplain
      exact .inr ⟨e, he1, he, hplain, he3, fun i hi1 hi2 => (he2 i hi1 hi2).2⟩
    · rw [if_neg hok] at h
      cases h
  · exact .inl h

/-- parameters up to `e`: the tail succeeds there and at no earlier end (lazy: first) -/
theorem restA_take {ctx : Ctx} {d2 q : Nat} (hr : ClsRun ctx false SP d2 q) (p1 e : Nat) (c : Caps)
    (res : Nat × Caps) (hnb : ∀ i, passes ctx false BSc i = false) (hq : q < e) (he : e ≤ ctx.s.size)
    (hplain : ∀ i, q ≤ i → i < e → passes ctx true PSTOP i = true)
    (hend : tailK ctx p1 e ((9, q, e) :: c) = some res)
    (hnone : ∀ i, q < i → i < e → tailK ctx p1 i ((9, q, i) :: c) = none) :
    restA ctx p1 d2 c = some res := by
  rw [restA_eq]
  refine m_star_max hr ?_
  rw [optp_eq ctx hnb q c _ (by omega), if_pos (hplain q (Nat.le_refl _) hq),
    lazyG_first _ (fun p' c' => tailK ctx p1 p' ((9, q, p') :: c')) c e res hend _ (q + 1) hq (by omega)
      fun i hi1 hi2 => ⟨hplain i (by omega) hi2, hnone i hi1 hi2⟩]
  rfl

theorem line_assemble {ctx : Ctx} {p1 : Nat} (hlead : ClsRun ctx false SP 0 p1) (res : Nat × Caps)
    (hbody : m ctx OPTN p1 [(1, 0, p1)] (fun p c => m ctx WSr p c (fun p c => m ctx CODEr p c (restA ctx p1)))
      = some res) :
    matchAt Gen.gcodeLine ctx.s 0 = some res := by
  obtain ⟨s⟩ := ctx
  unfold matchAt
  rw [gcodeLine_parts, m_seq, m_group]
  unfold WSr
  refine m_star_max hlead ?_
  rw [m_seq, m_group, m_alt, bodyA_eq]
  exact orElse'_some_left hbody

end ERP.Rx
