import ERP.Model.Regex
/-! # A program logic for the backtracking matcher `ERP.Rx.m`

The equations of `m`, one constructor and one step of the repetition loop at a time, and two kinds
of rules read off them: soundness, `WP r p c Q` — whenever matching `r` at `p` with captures `c`
succeeds (for any continuation), the continuation was entered at some `(p', c')` satisfying `Q`,
with a loop rule `wp_rep` — and completeness, `(m …).isSome` (`some_*`; `*_reach` for the loops).  Then `capOf`, what every match
guarantees (`Frame`, `Grows`, `m_good`), and `m_capsIrrel`: success does not depend on the captures a
match starts with.  Which match comes *first*: `Lemmas/Regex.lean`.  `passes` is also used by the
reference reading `Spec/Reader.lean`, so no Mathlib here. -/
namespace ERP.Rx

theorem orElse'_none {R : Type} (b : Unit → Option R) : orElse' none b = b () := rfl

theorem orElse'_none_r {R : Type} (a : Option R) : orElse' a (fun _ => none) = a := by
  cases a <;> rfl

theorem orElse'_some_left {R : Type} {a : Option R} {b : Unit → Option R} {r : R} (h : a = some r) :
    orElse' a b = some r := by
  subst h; rfl

theorem orElse'_some {R : Type} {a : Option R} {b : Unit → Option R} {r : R}
    (h : orElse' a b = some r) : a = some r ∨ b () = some r := by
  cases a with
  | none => exact .inr h
  | some x => exact .inl h

theorem orElse'_isSome {R : Type} (a : Option R) (b : Unit → Option R) :
    (orElse' a b).isSome = (a.isSome || (b ()).isSome) := by
  cases a <;> rfl

theorem orElse'_either {R : Type} (g : Bool) {a b : Option R} (h : a.isSome = true ∨ b.isSome = true) :
    (if g then orElse' a (fun _ => b) else orElse' b (fun _ => a)).isSome = true := by
  have hab : (a.isSome || b.isSome) = true := Bool.or_eq_true_iff.mpr h
  cases g
  · rw [if_neg Bool.false_ne_true, orElse'_isSome, Bool.or_comm]; exact hab
  · rw [if_pos rfl, orElse'_isSome]; exact hab

/-- the class test at position `i` (false beyond the end) -/
def passes (ctx : Ctx) (neg : Bool) (items : List CC) (i : Nat) : Bool :=
  if h : i < ctx.s.size then (items.any (CC.test ctx.s[i])) != neg else false

theorem passes_eq {ctx : Ctx} {i : Nat} (h : i < ctx.s.size) (neg : Bool) (items : List CC) :
    passes ctx neg items i = (items.any (CC.test ctx.s[i]) != neg) := dif_pos h

theorem passes_ge {ctx : Ctx} {p : Nat} (h : ctx.s.size ≤ p) (neg : Bool) (items : List CC) :
    passes ctx neg items p = false := dif_neg (Nat.not_lt.mpr h)

theorem passes_lt {ctx : Ctx} {neg : Bool} {items : List CC} {p : Nat} (h : passes ctx neg items p = true) :
    p < ctx.s.size :=
  Nat.not_le.mp fun hp => Bool.false_ne_true ((passes_ge hp neg items).symm.trans h)

theorem passes_end (ctx : Ctx) (neg : Bool) (items : List CC) : passes ctx neg items ctx.s.size = false :=
  passes_ge (Nat.le_refl _) neg items

theorem passes_neg {ctx : Ctx} {p : Nat} (hp : p < ctx.s.size) (items : List CC) :
    passes ctx true items p = !passes ctx false items p := by
  rw [passes_eq hp, passes_eq hp]; cases items.any (CC.test ctx.s[p]) <;> rfl

theorem passes_of_neg {ctx : Ctx} {items : List CC} {p : Nat} (hp : p < ctx.s.size)
    (h : passes ctx true items p = false) : passes ctx false items p = true := by
  rw [passes_neg hp] at h
  cases hq : passes ctx false items p with
  | true => rfl
  | false => rw [hq] at h; cases h

/-- a class of one item is that item's test -/
theorem cls1 (cc : CC) (x : Char) : ([cc].any (CC.test x) != false) = CC.test x cc :=
  (Bool.bne_false _).trans (Bool.or_false _)

theorem lit_test (a ch : Char) : ([CC.lit a].any (CC.test ch) != false) = true ↔ ch = a := by
  rw [cls1]; exact beq_iff_eq

theorem passes_lit_get {ctx : Ctx} {a : Char} {p : Nat} (h : passes ctx false [.lit a] p = true) :
    ∃ hp : p < ctx.s.size, ctx.s[p] = a :=
  have hp := passes_lt h
  ⟨hp, (lit_test a _).mp (passes_eq hp false _ ▸ h)⟩

theorem passes_lit {ctx : Ctx} {a : Char} {p : Nat} (h : passes ctx false [.lit a] p = true) (neg : Bool)
    (items : List CC) : passes ctx neg items p = (items.any (CC.test a) != neg) := by
  obtain ⟨hp, e⟩ := passes_lit_get h
  rw [passes_eq hp, e]

theorem passes_not_lit {ctx : Ctx} {neg : Bool} {items : List CC} {p : Nat} (h : passes ctx neg items p = true)
    (a : Char) (ha : (items.any (CC.test a) != neg) = false) : passes ctx false [.lit a] p = false := by
  cases hl : passes ctx false [.lit a] p with
  | false => rfl
  | true => rw [passes_lit hl neg items, ha] at h; cases h

theorem passes_cons {ctx : Ctx} {a : CC} {items : List CC} {p : Nat} (h : passes ctx false (a :: items) p = true) :
    passes ctx false [a] p = true ∨ passes ctx false items p = true := by
  have hp := passes_lt h
  rw [passes_eq hp] at h ⊢
  rw [passes_eq hp]
  cases ht : CC.test ctx.s[p] a with
  | true => exact .inl (by rw [List.any_cons, ht]; rfl)
  | false => rw [List.any_cons, ht] at h; exact .inr h

theorem atOk_end_string (ctx : Ctx) (p : Nat) : atOk ctx "end_string" p = true ↔ p = ctx.s.size := by
  simp only [atOk, beq_iff_eq]

theorem atOk_end (ctx : Ctx) : atOk ctx "end" ctx.s.size = true := by
  simp only [atOk, beq_self_eq_true, Bool.true_or]

theorem atOk_beginning (ctx : Ctx) : atOk ctx "beginning" 0 = true := by
  simp only [atOk, beq_self_eq_true]

section
variable {R : Type} (ctx : Ctx) (p : Nat) (c : Caps) (k : Nat → Caps → Option R)

theorem m_chars (neg : Bool) (items : List CC) :
    m ctx (.chars neg items) p c k = if passes ctx neg items p then k (p+1) c else none := by
  unfold m passes; split <;> rfl

theorem m_chars_end (neg : Bool) (items : List CC) : m ctx (.chars neg items) ctx.s.size c k = none := by
  rw [m_chars, passes_end]; rfl

theorem m_seq (a b : Re) : m ctx (.seq a b) p c k = m ctx a p c (fun p' c' => m ctx b p' c' k) := rfl

theorem m_alt (a b : Re) : m ctx (.alt a b) p c k = orElse' (m ctx a p c k) (fun _ => m ctx b p c k) := rfl

theorem m_rep (g : Bool) (lo : Nat) (hi : Option Nat) (r : Re) :
    m ctx (.rep g lo hi r) p c k = repLoop (m ctx r) g lo hi (ctx.s.size + 2 - p + lo) 0 p c k := rfl

theorem m_group (i : Nat) (r : Re) :
    m ctx (.group i r) p c k = m ctx r p c (fun p' c' => k p' ((i, p, p') :: c')) := rfl

theorem m_at (kind : String) : m ctx (.at kind) p c k = if atOk ctx kind p then k p c else none := rfl
end

/-- one more iteration of the body, if the upper bound allows it; an iteration that consumes nothing
once the lower bound is met is cut off -/
def repMore {R : Type} (mr : Nat → Caps → (Nat → Caps → Option R) → Option R) (g : Bool) (lo : Nat)
    (hi : Option Nat) (f n p : Nat) (c : Caps) (k : Nat → Caps → Option R) : Option R :=
  if canMore hi n then
    mr p c (fun p' c' => if (p' == p && decide (lo ≤ n)) then none else repLoop mr g lo hi f (n+1) p' c' k)
  else none

theorem succ_beq (p : Nat) : (p + 1 == p) = false := by
  rw [beq_eq_false_iff_ne]; exact Nat.succ_ne_self p

theorem repLoop_succ {R : Type} (mr : Nat → Caps → (Nat → Caps → Option R) → Option R)
    (g : Bool) (lo : Nat) (hi : Option Nat) (f n p : Nat) (c : Caps) (k : Nat → Caps → Option R) :
    repLoop mr g lo hi (f+1) n p c k =
      if n < lo then repMore mr g lo hi f n p c k
      else if g then orElse' (repMore mr g lo hi f n p c k) (fun _ => k p c)
      else orElse' (k p c) (fun _ => repMore mr g lo hi f n p c k) := rfl

theorem repLoop_opt_done {R : Type} (mr : Nat → Caps → (Nat → Caps → Option R) → Option R) (g : Bool)
    (f p : Nat) (c : Caps) (k : Nat → Caps → Option R) :
    repLoop mr g 0 (some 1) f 1 p c k = k p c := by
  cases f with
  | zero => rfl
  | succ f =>
    have hmore : repMore mr g 0 (some 1) f 1 p c k = none := if_neg (by decide)
    rw [repLoop_succ, if_neg (Nat.not_lt_zero 1), hmore]
    cases g
    · exact orElse'_none_r _
    · rfl

theorem repLoop_opt {R : Type} (mr : Nat → Caps → (Nat → Caps → Option R) → Option R) (g : Bool)
    (f p : Nat) (c : Caps) (k : Nat → Caps → Option R) :
    repLoop mr g 0 (some 1) (f + 1) 0 p c k =
      if g then orElse' (mr p c fun p' c' => if p' == p then none else k p' c') fun _ => k p c
      else orElse' (k p c) fun _ => mr p c fun p' c' => if p' == p then none else k p' c' := by
  rw [repLoop_succ, if_neg (Nat.lt_irrefl 0)]
  simp only [repMore, canMore, Nat.zero_lt_one, decide_true, if_true, Nat.le_refl, Bool.and_true, Nat.zero_add,
    repLoop_opt_done]

theorem m_opt {R : Type} (ctx : Ctx) (g : Bool) (r : Re) (p : Nat) (c : Caps) (k : Nat → Caps → Option R)
    (hp : p ≤ ctx.s.size) :
    m ctx (.rep g 0 (some 1) r) p c k =
      if g then orElse' (m ctx r p c fun p' c' => if p' == p then none else k p' c') fun _ => k p c
      else orElse' (k p c) fun _ => m ctx r p c fun p' c' => if p' == p then none else k p' c' := by
  rw [m_rep, Nat.add_zero, Nat.succ_sub (Nat.le_succ_of_le hp), repLoop_opt]

theorem m_opt_greedy {R : Type} (ctx : Ctx) (r : Re) (p : Nat) (c : Caps) (k : Nat → Caps → Option R)
    (hp : p ≤ ctx.s.size) :
    m ctx (.rep true 0 (some 1) r) p c k =
      orElse' (m ctx r p c (fun p' c' => if p' == p then none else k p' c')) (fun _ => k p c) :=
  m_opt ctx true r p c k hp

def Re.groups : Re → List Nat
  | .eps => [] | .chars _ _ => [] | .at _ => []
  | .seq a b => a.groups ++ b.groups
  | .alt a b => a.groups ++ b.groups
  | .rep _ _ _ r => r.groups
  | .group i r => i :: r.groups

def WP (ctx : Ctx) (r : Re) (p : Nat) (c : Caps) (Q : Nat → Caps → Prop) : Prop :=
  ∀ (R : Type) (k : Nat → Caps → Option R) (res : R), m ctx r p c k = some res →
    ∃ p' c', Q p' c' ∧ k p' c' = some res

section
variable {ctx : Ctx} {p : Nat} {c : Caps} {Q : Nat → Caps → Prop}

theorem wp_mono {r : Re} {Q' : Nat → Caps → Prop}
    (h : WP ctx r p c Q) (hq : ∀ p' c', Q p' c' → Q' p' c') : WP ctx r p c Q' := by
  intro R k res hm
  obtain ⟨p', c', h1, h2⟩ := h R k res hm
  exact ⟨p', c', hq p' c' h1, h2⟩

theorem wp_seq {a b : Re} (h : WP ctx a p c (fun pm cm => WP ctx b pm cm Q)) : WP ctx (.seq a b) p c Q := by
  intro R k res hm
  obtain ⟨pm, cm, h1, h2⟩ := h R _ res hm
  exact h1 R k res h2

theorem wp_group {i : Nat} {r : Re} (h : WP ctx r p c (fun p' c0 => Q p' ((i, p, p') :: c0))) :
    WP ctx (.group i r) p c Q := by
  intro R k res hm
  obtain ⟨p', c0, h1, h2⟩ := h R _ res hm
  exact ⟨p', _, h1, h2⟩

theorem wp_alt {a b : Re} (ha : WP ctx a p c Q) (hb : WP ctx b p c Q) : WP ctx (.alt a b) p c Q :=
  fun R k res hm => (orElse'_some hm).elim (ha R k res) (hb R k res)

theorem wp_chars {neg : Bool} {items : List CC} (h : passes ctx neg items p = true → Q (p + 1) c) :
    WP ctx (.chars neg items) p c Q := by
  intro R k res hm
  rw [m_chars] at hm
  split at hm
  · rename_i ht; exact ⟨p + 1, c, h ht, hm⟩
  · cases hm

theorem wp_eps {ctx : Ctx} {p : Nat} {c : Caps} {Q : Nat → Caps → Prop} (h : Q p c) : WP ctx .eps p c Q := by
  intro R k res hm; simp only [m] at hm; exact ⟨p, c, h, hm⟩

theorem wp_at {kind : String} (h : atOk ctx kind p = true → Q p c) : WP ctx (.at kind) p c Q := by
  intro R k res hm
  rw [m_at] at hm
  split at hm
  · rename_i hk; exact ⟨p, c, h hk, hm⟩
  · cases hm

theorem wp_opt {g : Bool} {r : Re} (h0 : Q p c) (h1 : WP ctx r p c Q) : WP ctx (.rep g 0 (some 1) r) p c Q := by
  intro R k res hm
  rw [m_rep] at hm
  generalize ctx.s.size + 2 - p + 0 = fuel at hm
  cases fuel with
  | zero => exact ⟨p, c, h0, hm⟩
  | succ f =>
    rw [repLoop_opt] at hm
    -- either branch: the empty match, or `r` entering a continuation that is `k` or fails
    have take : ∀ res, (m ctx r p c fun p' c' => if p' == p then none else k p' c') = some res →
        ∃ p' c', Q p' c' ∧ k p' c' = some res := fun res hh => by
      obtain ⟨p', c', q1, q2⟩ := h1 R _ res hh
      split at q2
      · cases q2
      · exact ⟨p', c', q1, q2⟩
    cases g
    · rw [if_neg Bool.false_ne_true] at hm
      rcases orElse'_some hm with hh | hh
      · exact ⟨p, c, h0, hh⟩
      · exact take _ hh
    · rw [if_pos rfl] at hm
      rcases orElse'_some hm with hh | hh
      · exact take _ hh
      · exact ⟨p, c, h0, hh⟩

theorem repLoop_wp {R : Type} {mr : Nat → Caps → (Nat → Caps → Option R) → Option R}
    {I : Nat → Caps → Prop}
    (hmr : ∀ p c k res, I p c → mr p c k = some res → ∃ p' c', I p' c' ∧ k p' c' = some res)
    (g : Bool) (lo : Nat) (hi : Option Nat) (k : Nat → Caps → Option R) (res : R) :
    ∀ fuel n p c, I p c → repLoop mr g lo hi fuel n p c k = some res →
      ∃ p' c', I p' c' ∧ k p' c' = some res := by
  intro fuel
  induction fuel with
  | zero => exact fun n p c hI h => ⟨p, c, hI, h⟩
  | succ f ih =>
    intro n p c hI h
    have more : repMore mr g lo hi f n p c k = some res → ∃ p' c', I p' c' ∧ k p' c' = some res := by
      intro hm
      unfold repMore at hm
      by_cases hc : canMore hi n = true
      · rw [if_pos hc] at hm
        obtain ⟨p1, c1, hI1, hk1⟩ := hmr _ _ _ _ hI hm
        by_cases hz : (p1 == p && decide (lo ≤ n)) = true
        · rw [if_pos hz] at hk1; cases hk1
        · rw [if_neg hz] at hk1; exact ih _ _ _ hI1 hk1
      · rw [if_neg hc] at hm; cases hm
    rw [repLoop_succ] at h
    by_cases hn : n < lo
    · rw [if_pos hn] at h; exact more h
    · rw [if_neg hn] at h
      cases g
      · rw [if_neg Bool.false_ne_true] at h
        rcases orElse'_some h with h | h
        · exact ⟨p, c, hI, h⟩
        · exact more h
      · rw [if_pos rfl] at h
        rcases orElse'_some h with h | h
        · exact more h
        · exact ⟨p, c, hI, h⟩

theorem wp_rep {g : Bool} {lo : Nat} {hi : Option Nat} {r : Re} {I : Nat → Caps → Prop} (h0 : I p c)
    (hstep : ∀ p c, I p c → WP ctx r p c I) : WP ctx (.rep g lo hi r) p c I :=
  fun R k res hm => repLoop_wp (fun p c k res hI => hstep p c hI R k res) g lo hi k res _ _ _ _ h0 hm
end

/-! ## looking a group up in a capture list -/

theorem capOf_nil (i : Nat) : capOf [] i = none := rfl

theorem capOf_cons (c : Caps) (j a b i : Nat) :
    capOf ((j, a, b) :: c) i = if j = i then some (a, b) else capOf c i := by
  unfold capOf
  rw [List.find?_cons]
  by_cases h : j = i
  · rw [if_pos h, show ((j, a, b).1 == i) = true from beq_iff_eq.mpr h]; rfl
  · rw [if_neg h, show ((j, a, b).1 == i) = false from beq_eq_false_iff_ne.mpr h]

theorem capOf_cons_ne {c : Caps} {i j a b : Nat} (h : j ≠ i) : capOf ((i, a, b) :: c) j = capOf c j :=
  (capOf_cons c i a b j).trans (if_neg fun e => h e.symm)

theorem capOf_cons_eq {c : Caps} {i a b : Nat} : capOf ((i, a, b) :: c) i = some (a, b) :=
  (capOf_cons c i a b i).trans (if_pos rfl)

theorem capOf_append (c c' : Caps) (i : Nat) : capOf (c ++ c') i = (capOf c i).or (capOf c' i) := by
  induction c with
  | nil => rfl
  | cons e c ih =>
    obtain ⟨j, a, b⟩ := e
    rw [List.cons_append, capOf_cons, capOf_cons, ih]
    split <;> rfl

theorem capOf_ite (b : Prop) [Decidable b] (c c' : Caps) (i : Nat) :
    capOf (if b then c else c') i = if b then capOf c i else capOf c' i := apply_ite (capOf · i) b c c'

/-- look-up in the entries of an optional group, `(o.map …).toList` -/
theorem capOf_toList {α : Type} (o : Option α) (f : α → Nat × Nat) (j i : Nat) :
    capOf (o.map fun v => (j, f v)).toList i = if j = i then o.map f else none := by
  cases o with
  | none => exact (ite_self _).symm
  | some v => exact capOf_cons [] j (f v).1 (f v).2 i

theorem capOf_eq_none {l : Caps} {i : Nat} (h : ∀ e ∈ l, e.1 ≠ i) : capOf l i = none := by
  induction l with
  | nil => rfl
  | cons e l ih =>
    obtain ⟨j, a, b⟩ := e
    rw [capOf_cons, if_neg (h _ List.mem_cons_self), ih fun e he => h e (List.mem_cons_of_mem _ he)]

/-- what every regex guarantees: the position does not decrease, stays within the string, and only
the groups of the regex are touched -/
def Frame (ctx : Ctx) (gs : List Nat) (p : Nat) (c : Caps) (p' : Nat) (c' : Caps) : Prop :=
  p ≤ p' ∧ p' ≤ ctx.s.size ∧ ∀ j, j ∉ gs → capOf c' j = capOf c j

def Good {R : Type} (ctx : Ctx) (gs : List Nat)
    (mr : Nat → Caps → (Nat → Caps → Option R) → Option R) : Prop :=
  ∀ p c k res, p ≤ ctx.s.size → mr p c k = some res → ∃ p' c', k p' c' = some res ∧ Frame ctx gs p c p' c'

section
variable {ctx : Ctx} {gs gs' : List Nat} {p p' : Nat} {c c' : Caps} (h : Frame ctx gs p c p' c')
include h

theorem Frame.le : p ≤ p' := h.1
theorem Frame.inside : p' ≤ ctx.s.size := h.2.1
theorem Frame.keep : ∀ j, j ∉ gs → capOf c' j = capOf c j := h.2.2

theorem Frame.mono (hs : ∀ j, j ∈ gs → j ∈ gs') : Frame ctx gs' p c p' c' :=
  ⟨h.le, h.inside, fun j hj => h.keep j (fun hm => hj (hs j hm))⟩
end

/-- a match moves forward inside the text and only puts captures of its own groups in front of
those it found -/
structure Grows (ctx : Ctx) (gs : List Nat) (p : Nat) (c : Caps) (p' : Nat) (c' : Caps) : Prop where
  le : p ≤ p'
  inside : p' ≤ ctx.s.size
  ex : ∃ l : Caps, c' = l ++ c ∧ ∀ e ∈ l, e.1 ∈ gs

section
variable {ctx : Ctx} {gs gs' : List Nat} {p p1 p2 : Nat} {c c1 c2 : Caps}

theorem Grows.refl (ctx : Ctx) (gs : List Nat) (p : Nat) (c : Caps) (h : p ≤ ctx.s.size) :
    Grows ctx gs p c p c :=
  ⟨Nat.le_refl _, h, [], rfl, fun _ he => nomatch he⟩

theorem Grows.trans (h1 : Grows ctx gs p c p1 c1) (h2 : Grows ctx gs p1 c1 p2 c2) : Grows ctx gs p c p2 c2 := by
  obtain ⟨l1, rfl, k1⟩ := h1.ex
  obtain ⟨l2, rfl, k2⟩ := h2.ex
  exact ⟨Nat.le_trans h1.le h2.le, h2.inside, l2 ++ l1, (List.append_assoc ..).symm,
    fun e he => (List.mem_append.mp he).elim (k2 e) (k1 e)⟩

theorem Grows.mono (h : Grows ctx gs p c p1 c1) (hs : ∀ j, j ∈ gs → j ∈ gs') : Grows ctx gs' p c p1 c1 :=
  let ⟨l, e, k⟩ := h.ex
  ⟨h.le, h.inside, l, e, fun x hx => hs _ (k x hx)⟩

theorem Grows.group (h : Grows ctx gs p c p1 c1) (i : Nat) : Grows ctx (i :: gs) p c p1 ((i, p, p1) :: c1) := by
  obtain ⟨l, rfl, k⟩ := h.ex
  exact ⟨h.le, h.inside, (i, p, p1) :: l, rfl, fun e he =>
    (List.mem_cons.mp he).elim (fun h => h ▸ List.mem_cons_self) fun h => List.mem_cons_of_mem _ (k e h)⟩

theorem Grows.frame (h : Grows ctx gs p c p1 c1) : Frame ctx gs p c p1 c1 := by
  obtain ⟨l, rfl, k⟩ := h.ex
  refine ⟨h.le, h.inside, fun j hj => ?_⟩
  have hl : capOf l j = none := capOf_eq_none fun e he hej => hj (by rw [← hej]; exact k e he)
  rw [capOf_append, hl]
  rfl

theorem Grows.caps_eq (h : Grows ctx [] p c p1 c1) : c1 = c := by
  obtain ⟨l, rfl, k⟩ := h.ex
  cases l with
  | nil => rfl
  | cons e l => exact nomatch k e List.mem_cons_self
end

theorem wp_grows (ctx : Ctx) : ∀ (r : Re) (p : Nat) (c : Caps), p ≤ ctx.s.size →
    WP ctx r p c (Grows ctx r.groups p c) := by
  intro r
  induction r with
  | eps => exact fun p c hp => wp_eps (Grows.refl ctx _ p c hp)
  | chars neg items =>
    exact fun p c hp => wp_chars fun h => ⟨Nat.le_succ _, passes_lt h, [], rfl, fun _ he => nomatch he⟩
  | «at» kind => exact fun p c hp => wp_at fun _ => Grows.refl ctx _ p c hp
  | seq a b iha ihb =>
    intro p c hp
    refine wp_seq (wp_mono (iha p c hp) fun p1 c1 f1 => wp_mono (ihb p1 c1 f1.inside) fun p2 c2 f2 => ?_)
    exact (f1.mono fun j => List.mem_append_left _).trans (f2.mono fun j => List.mem_append_right _)
  | alt a b iha ihb =>
    intro p c hp
    exact wp_alt (wp_mono (iha p c hp) fun _ _ f => f.mono fun j => List.mem_append_left _)
      (wp_mono (ihb p c hp) fun _ _ f => f.mono fun j => List.mem_append_right _)
  | group i r ih => exact fun p c hp => wp_group (wp_mono (ih p c hp) fun p1 c1 f1 => f1.group i)
  | rep g lo hi r ih =>
    intro p c hp
    -- the invariant of the loop: `Grows` relative to where the repetition started
    exact wp_rep (Grows.refl ctx _ p c hp) fun p1 c1 f1 => wp_mono (ih p1 c1 f1.inside) fun _ _ => f1.trans

theorem wp_frame (ctx : Ctx) (r : Re) (p : Nat) (c : Caps) (hp : p ≤ ctx.s.size) :
    WP ctx r p c (Frame ctx r.groups p c) :=
  wp_mono (wp_grows ctx r p c hp) fun _ _ => Grows.frame

theorem m_good {R : Type} (ctx : Ctx) : ∀ r : Re, Good (R := R) ctx r.groups (fun p c k => m ctx r p c k) :=
  fun r p c k res hp h => let ⟨p', c', hf, hk⟩ := wp_frame ctx r p c hp R k res h; ⟨p', c', hk, hf⟩

theorem wp_any {ctx : Ctx} (r : Re) {p : Nat} {c : Caps} {Q : Nat → Caps → Prop} (hp : p ≤ ctx.s.size)
    (h : ∀ p' c', Frame ctx r.groups p c p' c' → Q p' c') : WP ctx r p c Q :=
  wp_mono (wp_frame ctx r p c hp) h

theorem wp_pre {ctx : Ctx} {a rest : Re} {p : Nat} {c : Caps} {Q : Nat → Caps → Prop} (hp : p ≤ ctx.s.size)
    (h : ∀ p' c', Frame ctx a.groups p c p' c' → WP ctx rest p' c' Q) : WP ctx (.seq a rest) p c Q :=
  wp_seq (wp_any a hp h)

theorem wp_nogroup {ctx : Ctx} (r : Re) (hg : r.groups = []) {p : Nat} {c : Caps} {Q : Nat → Caps → Prop}
    (hp : p ≤ ctx.s.size) (h : ∀ p', p ≤ p' → p' ≤ ctx.s.size → Q p' c) : WP ctx r p c Q := by
  refine wp_mono (wp_grows ctx r p c hp) fun p' c' g => ?_
  rw [hg] at g
  rw [g.caps_eq]
  exact h p' g.le g.inside

theorem wp_seq_assoc {ctx : Ctx} {a b r : Re} {p : Nat} {c : Caps} {Q : Nat → Caps → Prop}
    (h : WP ctx (.seq (.seq a b) r) p c Q) : WP ctx (.seq a (.seq b r)) p c Q := h

theorem WP.of_matchAt {s : Array Char} {r : Re} {off e : Nat} {caps : Caps} {Q : Nat → Caps → Prop}
    (h : WP ⟨s⟩ r off [] Q) (hm : matchAt r s off = some (e, caps)) : Q e caps := by
  obtain ⟨p', c', hq, hk⟩ := h _ _ _ hm
  cases hk; exact hq

section
variable {R : Type} {ctx : Ctx} {a b : Re} {p : Nat} {c : Caps} {k : Nat → Caps → Option R}

theorem some_alt_left {R : Type} {ctx : Ctx} {a b : Re} {p : Nat} {c : Caps} {k : Nat → Caps → Option R}
    (h : (m ctx a p c k).isSome) : (m ctx (.alt a b) p c k).isSome := by
  rw [m_alt, orElse'_isSome, h]; rfl

theorem some_alt_right (h : (m ctx b p c k).isSome) : (m ctx (.alt a b) p c k).isSome := by
  rw [m_alt, orElse'_isSome, h, Bool.or_true]

theorem some_chars {neg : Bool} {items : List CC} (ht : passes ctx neg items p = true)
    (h : (k (p + 1) c).isSome) : (m ctx (.chars neg items) p c k).isSome := by
  rw [m_chars, if_pos ht]; exact h

theorem some_opt_take {g : Bool} {r : Re} (hp : p ≤ ctx.s.size)
    (h : (m ctx r p c (fun p' c' => if p' == p then none else k p' c')).isSome) :
    (m ctx (.rep g 0 (some 1) r) p c k).isSome := by
  rw [m_opt ctx g r p c k hp]
  exact orElse'_either g (.inl h)

theorem some_opt_skip {g : Bool} {r : Re} (hp : p ≤ ctx.s.size) (h : (k p c).isSome) :
    (m ctx (.rep g 0 (some 1) r) p c k).isSome := by
  rw [m_opt ctx g r p c k hp]
  exact orElse'_either g (.inr h)
end

/-- whether the continuation succeeds does not depend on the captures -/
def CapsIrrel {R : Type} (k : Nat → Caps → Option R) : Prop :=
  ∀ p c c', (k p c).isSome = (k p c').isSome

theorem repLoop_capsIrrel {R : Type} (mr : Nat → Caps → (Nat → Caps → Option R) → Option R)
    (hmr : ∀ k, CapsIrrel k → CapsIrrel (fun p c => mr p c k))
    (g : Bool) (lo : Nat) (hi : Option Nat) (k : Nat → Caps → Option R) (hk : CapsIrrel k) :
    ∀ fuel n, CapsIrrel (fun p c => repLoop mr g lo hi fuel n p c k) := by
  intro fuel
  induction fuel with
  | zero => exact fun n => hk
  | succ f ih =>
    intro n p c c'
    have hmore : (repMore mr g lo hi f n p c k).isSome = (repMore mr g lo hi f n p c' k).isSome := by
      unfold repMore
      by_cases hc : canMore hi n = true
      · rw [if_pos hc, if_pos hc]
        refine hmr _ (fun p1 c1 c1' => ?_) p c c'
        by_cases hz : (p1 == p && decide (lo ≤ n)) = true
        · rw [if_pos hz, if_pos hz]
        · rw [if_neg hz, if_neg hz]; exact ih (n+1) p1 c1 c1'
      · rw [if_neg hc, if_neg hc]
    show (repLoop mr g lo hi (f+1) n p c k).isSome = (repLoop mr g lo hi (f+1) n p c' k).isSome
    rw [repLoop_succ, repLoop_succ]
    by_cases hn : n < lo
    · rw [if_pos hn, if_pos hn, hmore]
    · rw [if_neg hn, if_neg hn]
      cases g <;> simp only [Bool.false_eq_true, if_true, if_false, orElse'_isSome, hmore, hk p c c']

theorem m_capsIrrel {R : Type} (ctx : Ctx) : ∀ (r : Re) (k : Nat → Caps → Option R), CapsIrrel k →
    CapsIrrel (fun p c => m ctx r p c k) := by
  intro r
  induction r with
  | eps => exact fun k hk => hk
  | chars neg items =>
    intro k hk p c c'
    simp only [m_chars]
    split
    · exact hk _ c c'
    · rfl
  | seq a b iha ihb => exact fun k hk => iha _ (ihb k hk)
  | alt a b iha ihb =>
    intro k hk p c c'
    simp only [m_alt, orElse'_isSome, iha k hk p c c', ihb k hk p c c']
  | rep g lo hi r ih => exact fun k hk p => repLoop_capsIrrel (m ctx r) ih g lo hi k hk _ _ p
  | group i r ih =>
    exact fun k hk p => ih (fun p' c' => k p' ((i, p, p') :: c')) (fun p1 c1 c1' => hk p1 _ _) p
  | «at» kind =>
    intro k hk p c c'
    simp only [m_at]
    split
    · exact hk p c c'
    · rfl

end ERP.Rx
