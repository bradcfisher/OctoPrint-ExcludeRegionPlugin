import ERP.Gen.Consts
import ERP.Model.Handlers
/-! # Constants and tables of the source the model relies on

`ERP/Gen/Consts.lean` is regenerated from the working tree on every run; each theorem of the first
part pins one of its values to what the hand-written model assumes, so an edit of the source that
changes it breaks the build.  The last section puts the model's start values next to the source's
texts. -/
namespace ERP

/-- the G-codes `GcodeHandlers` has a `_handle_*` method for, as a literal -/
theorem handlerNames_eq : Gen.handlerNames =
    ["G0", "G1", "G10", "G11", "G2", "G20", "G21", "G28", "G3", "G90", "G91", "G92", "M206"] := rfl

/-- with `builtin_are_handlers`: the handler names are exactly the strings `Code.ofString` does not
send to `.other` -/
theorem handlers_are_builtin : ∀ s ∈ Gen.handlerNames, Code.ofString s ≠ .other s := by decide

theorem builtin_are_handlers (s : String) : Code.ofString s = .other s ∨ s ∈ Gen.handlerNames := by
  unfold Code.ofString
  split
  -- the last alternative is the catch-all
  rotate_right
  · exact .inl rfl
  all_goals exact .inr (by decide)

/-- `MM_PER_ARC_SEGMENT = 1.0` (the model divides the arc length by `1`) -/
theorem mmPerArcSegment_is_one : Gen.mmPerArcSegmentBits = 0x3FF0000000000000 := rfl

/-- `TWO_PI == 2 * math.pi` -/
theorem twoPi_is_two_pi : Gen.twoPiIsTwoPi = true := rfl

/-- `INCH_TO_MM_FACTOR = 25.4` (exactly 127/5 as a decimal literal).  The theorems keep `inch` a
free parameter; only the driver instantiates it, with `inchF` from `Gen.inchToMmBits`, which the
translator emits from the same literal. -/
theorem inchToMm_is_25_4 : Gen.inchToMmNum = 127 ∧ Gen.inchToMmDen = 5 := ⟨rfl, rfl⟩

/-- `IGNORE_GCODE_CMD = (None,)` -/
theorem ignore_is_none_tuple : Gen.ignoreIsNoneTuple = true := rfl

/-- the four ways an extended G-code can be treated (`Mode`) -/
theorem modeNames_eq : Gen.modeNames = ["exclude", "first", "last", "merge"] := rfl

/-- the two @-command actions (`AtAction.enable`, `.disable`) -/
theorem actionNames_eq : Gen.actionNames = ["enable_exclusion", "disable_exclusion"] := rfl

theorem regionsChangedEvent_eq : Gen.regionsChangedEvent = "ExcludedRegionsChanged" := rfl

/-- API commands and their required parameters -/
theorem apiCommands_eq : Gen.apiCommands =
    [("addExcludeRegion", ["type"]), ("deleteExcludeRegion", ["id"]), ("updateExcludeRegion", ["type", "id"])] := rfl

/-- the defaults of the settings in the source, pinned so that the default settings the harness
starts the model with are the source's (`Plugin.initialize` takes the settings as an argument) -/
theorem settings_defaults :
    Gen.defaultClearRegionsAfterPrintFinishes = false ∧ Gen.defaultMayShrinkRegionsWhilePrinting = false ∧
    Gen.defaultEnterScriptIsNone = true ∧ Gen.defaultExitScriptIsNone = true ∧
    Gen.defaultExtended = [("G4", "exclude"), ("M204", "merge"), ("M205", "merge"), ("M117", "last"), ("M73", "merge")] :=
  ⟨rfl, rfl, rfl, rfl, rfl⟩

/-- the attributes `resetState` assigns: the fields of `FState` (plus the unmodelled counters and
the start time) -/
theorem resetState_attrs : Gen.resetStateAttrs =
    ["_exclusionEnabled", "excludeStartTime", "excludedRegions", "excluding", "feedRate",
     "feedRateUnitMultiplier", "lastPosition", "lastRetraction", "numCommands", "numExcludedCommands",
     "pendingCommands", "position"] := rfl

/-- the attributes only `__init__` assigns: the fields of `Config` (plus logger, parser) -/
theorem init_attrs : Gen.initAttrs =
    ["_logger", "atCommandActions", "enteringExcludedRegionGcode", "exitingExcludedRegionGcode",
     "extendedExcludeGcodes", "g90InfluencesExtruder", "gcodeParser"] := rfl

/-! ## What a new print and new objects start from

The source text of the values assigned by `resetState`, `Position()`, the defaults of
`AxisPosition(...)` and `RetractionState(...)`, next to the values the model's constructors use. -/

theorem resetState_values : Gen.resetStateValues =
    [("position", "Position()"), ("feedRate", "0"), ("feedRateUnitMultiplier", "1"),
     ("_exclusionEnabled", "True"), ("excluding", "False"), ("excludeStartTime", "None"),
     ("numExcludedCommands", "0"), ("numCommands", "0"), ("lastRetraction", "None"),
     ("lastPosition", "None"), ("pendingCommands", "OrderedDict()")] := rfl

theorem position_init_values : Gen.positionInitValues =
    [("X_AXIS", "AxisPosition()"), ("Y_AXIS", "AxisPosition()"), ("Z_AXIS", "AxisPosition()"),
     ("E_AXIS", "AxisPosition(0)")] := rfl

theorem axis_default_values : Gen.axisDefaultValues =
    [("current", "None"), ("homeOffset", "0.0"), ("offset", "0.0"), ("absoluteMode", "True"),
     ("unitMultiplier", "1.0")] := rfl

theorem retraction_init_values : Gen.retractionInitValues =
    [("recoverExcluded", "False"), ("allowCombine", "True")] := rfl

section
variable {α : Type} [Add α] [Sub α] [Mul α] [Div α] [Neg α] [LT α] [LE α] [BEq α]
  [OfNat α 0] [OfNat α 1] [DecidableLT α] [DecidableLE α] [MathOps α]

/-- the model's `resetState`, to be compared by eye with `resetState_values` above (nothing in Lean
relates the source texts `"0"`, `"True"`, `"OrderedDict()"` to these terms) -/
theorem model_reset_values (rs : List (Region α)) :
    (FState.reset rs).position = Position.init ∧ (FState.reset rs).feedRate = 0 ∧
    (FState.reset rs).feedRateUnitMultiplier = 1 ∧ (FState.reset rs).exclusionEnabled = true ∧
    (FState.reset rs).excluding = false ∧ (FState.reset rs).lastRetraction = none ∧
    (FState.reset rs).lastPosition = none ∧ (FState.reset rs).pendingCommands = [] :=
  ⟨rfl, rfl, rfl, rfl, rfl, rfl, rfl, rfl⟩

/-- the model's `Position()` / `AxisPosition(current)`, to be compared by eye with
`position_init_values` and `axis_default_values` -/
theorem model_position_init :
    (Position.init : Position α) = { x := Axis.init none, y := Axis.init none, z := Axis.init none, e := Axis.init (some 0) } ∧
    ∀ c : Option α, Axis.init c = { current := c, homeOffset := 0, offset := 0, absoluteMode := true, unitMultiplier := 1 } :=
  ⟨rfl, fun _ => rfl⟩
end

end ERP
