import ERP.Lemmas.Refine
import ERP.Lemmas.Track
import ERP.Lemmas.Ctrl
import ERP.Lemmas.GenArith
/-! # The invariant between the filter state and the physical printer (X/Y/Z part)

`InvXYZ`: the printer, executing what the filter forwards, has the filter's X/Y/Z axes — in an
episode their frame, with the position the tool had before the entering move — and the deferred
commands are `PendingNeutral`. `plm_inv`: kept by a move; `exit_resync`, `exit_zorder`: leaving. -/
namespace ERP
open T Spec

section
variable {α : Type}

/-- the tracked axis; in an episode its frame with the remembered `current` -/
def expectAxis (s : FState α) (sel : Position α → Axis α) : Axis α :=
  if s.excluding then { sel s.position with current := (sel (T.lastPos s)).current } else sel s.position

/-- proofs use the form `invXYZ_iff` (one comparison of positions); the three fields serve the
frame-changing commands, which act axis by axis -/
structure InvXYZ (s : FState α) (phys : Printer α) : Prop where
  x : phys.pos.x = expectAxis s (·.x)
  y : phys.pos.y = expectAxis s (·.y)
  z : phys.pos.z = expectAxis s (·.z)
  pend : PendingNeutral s

/-- `q`'s frames (offsets, mode, unit) with the tool standing where it stands in `lp` -/
def hold (q lp : Position α) : Position α :=
  { q with x := { q.x with current := lp.x.current }, y := { q.y with current := lp.y.current },
           z := { q.z with current := lp.z.current } }

/-- where the printer is expected to be: on the tracked position, or — while an episode is open —
held at the pre-episode spot in the tracked frames -/
def expectPos (s : FState α) : Position α :=
  if s.excluding then hold s.position (T.lastPos s) else s.position

theorem invXYZ_iff {s : FState α} {phys : Printer α} :
    InvXYZ s phys ↔ XYZeq phys.pos (expectPos s) ∧ PendingNeutral s := by
  have e : XYZeq phys.pos (expectPos s) ↔ phys.pos.x = expectAxis s (·.x) ∧
      phys.pos.y = expectAxis s (·.y) ∧ phys.pos.z = expectAxis s (·.z) := by
    unfold expectPos expectAxis
    cases s.excluding <;> exact Iff.rfl
  exact ⟨fun ⟨hx, hy, hz, hp⟩ => ⟨e.mpr ⟨hx, hy, hz⟩, hp⟩,
    fun ⟨h, hp⟩ => ⟨(e.mp h).1, (e.mp h).2.1, (e.mp h).2.2, hp⟩⟩

theorem lastPos_of_some {s : FState α} {lp : Position α} (h : s.lastPosition = some lp) :
    T.lastPos s = lp := by
  unfold T.lastPos; rw [h]; rfl

theorem expectPos_free {s : FState α} (he : s.excluding = false) : expectPos s = s.position := by
  rw [expectPos, he]; rfl

theorem expectPos_held {s : FState α} {lp : Position α} (he : s.excluding = true)
    (hl : s.lastPosition = some lp) : expectPos s = hold s.position lp := by
  rw [expectPos, he, lastPos_of_some hl]; rfl

theorem InvXYZ.free {s : FState α} {phys : Printer α} (h : InvXYZ s phys)
    (he : s.excluding = false) : XYZeq phys.pos s.position :=
  expectPos_free he ▸ (invXYZ_iff.mp h).1

theorem InvXYZ.mk_free {s : FState α} {phys : Printer α} (he : s.excluding = false)
    (h : XYZeq phys.pos s.position) (hp : PendingNeutral s) : InvXYZ s phys :=
  invXYZ_iff.mpr ⟨(expectPos_free he).symm ▸ h, hp⟩

theorem InvXYZ.held {s : FState α} {phys : Printer α} (h : InvXYZ s phys) {lp : Position α}
    (he : s.excluding = true) (hl : s.lastPosition = some lp) :
    XYZeq phys.pos (hold s.position lp) :=
  expectPos_held he hl ▸ (invXYZ_iff.mp h).1

theorem InvXYZ.mk_held {s : FState α} {phys : Printer α} {lp : Position α}
    (he : s.excluding = true) (hl : s.lastPosition = some lp)
    (h : XYZeq phys.pos (hold s.position lp)) (hp : PendingNeutral s) : InvXYZ s phys :=
  invXYZ_iff.mpr ⟨(expectPos_held he hl).symm ▸ h, hp⟩

theorem XYZeq.hold {p q : Position α} (h : XYZeq p q) (lp : Position α) :
    XYZeq (hold p lp) (hold q lp) := by
  obtain ⟨hx, hy, hz⟩ := h
  simp only [ERP.hold, XYZeq, hx, hy, hz, and_self]

theorem expectPos_congr {s s' : FState α} (hpos : XYZeq s'.position s.position)
    (hex : s'.excluding = s.excluding) (hlp : s'.lastPosition = s.lastPosition) :
    XYZeq (expectPos s') (expectPos s) := by
  unfold expectPos T.lastPos
  rw [hex, hlp]
  split
  · cases s.lastPosition with
    | none =>
      obtain ⟨hx, hy, hz⟩ := hpos
      simp only [Option.getD_none, ERP.hold, XYZeq, hx, hy, hz, and_self]
    | some lp => exact hpos.hold lp
  · exact hpos

theorem InvXYZ.congr {s s' : FState α} {phys phys' : Printer α} (h : InvXYZ s phys)
    (hp : XYZeq phys'.pos phys.pos) (hpos : XYZeq s'.position s.position)
    (hex : s'.excluding = s.excluding) (hlp : s'.lastPosition = s.lastPosition)
    (hpn : PendingNeutral s') : InvXYZ s' phys' :=
  invXYZ_iff.mpr
    ⟨hp.trans ((invXYZ_iff.mp h).1.trans (expectPos_congr hpos hex hlp).symm'), hpn⟩

theorem InvXYZ.of_core {s s' : FState α} {phys : Printer α} (h : InvXYZ s phys)
    (e : s' = { s with exclusionEnabled := s'.exclusionEnabled,
                       excludedRegions := s'.excludedRegions }) : InvXYZ s' phys :=
  e ▸ h.congr (s' := { s with exclusionEnabled := _, excludedRegions := _ }) (XYZeq.refl _)
    (XYZeq.refl _) rfl rfl h.pend

end

variable {α : Type} [Field α]

theorem hold_movedPos (p lp : Position α) (ep fz : Option α) (xy : List (Option α × Option α)) :
    XYZeq (hold (movedPos p ep fz xy) lp) (hold p lp) :=
  ⟨axis_eq_of (loopAxis_frame _ _) rfl, axis_eq_of (loopAxis_frame _ _) rfl,
    axis_eq_of (setLog_frame _ _) rfl⟩

theorem exit_axis (a l : Axis α) (ha : AxisOk a) :
    moveAxis ({ a with current := l.current } : Axis α) (some (exitCoord a l)) = a := by
  have hu := ha.2
  conv_rhs => rw [← ha.eta]
  simp only [moveAxis, target, exitCoord, coord, n2l]
  by_cases hm : a.absoluteMode = true
  · simp only [hm, if_true]
    congr 2
    rw [div_mul_cancel₀ _ hu, sub_add_cancel]
  · simp only [hm, Bool.false_eq_true, if_false]
    congr 2
    rw [div_mul_cancel₀ _ hu]
    exact add_sub_cancel _ _

variable [LinearOrder α]

/-- the part of the exit sequence that moves nothing -/
def exitPre (cfg : Config) (s : FState α) : List (Out α) :=
  (FState.processPendingCommands cfg { s with excluding := false }).2 ++
    [Out.g92e (n2l s.position.e)]

theorem exit_prefix (g90e : Bool) (inch : α) (cfg : Config) (s : FState α) (phys : Printer α)
    {lp : Position α} (hinv : InvXYZ s phys) (he : s.excluding = true)
    (hl : s.lastPosition = some lp) :
    XYZeq (phys.execOuts g90e inch (exitPre cfg s)).pos (hold s.position lp) :=
  (((processPendingCommands_silent cfg { s with excluding := false } hinv.pend).append
    (fun o ho => by rw [List.mem_singleton.mp ho]; trivial)).exec g90e inch phys).trans
    (hinv.held he hl)

section
variable [MathOps α]

theorem exit_seq (cfg : Config) (s : FState α) (he : s.excluding = true) {lp : Position α}
    (hlp : s.lastPosition = some lp) :
    (T.exitExcludedRegion cfg s).2 =
      exitPre cfg s ++
        (if cur lp.z < cur s.position.z then
          [Out.g0z (s.feedRate / s.feedRateUnitMultiplier) (exitCoord s.position.z lp.z)] else []) ++
        [Out.g0xy (s.feedRate / s.feedRateUnitMultiplier) (exitCoord s.position.x lp.x)
          (exitCoord s.position.y lp.y)] ++
        (if cur s.position.z < cur lp.z then
          [Out.g0z (s.feedRate / s.feedRateUnitMultiplier) (exitCoord s.position.z lp.z)]
          else []) := by
  rw [exit_outputs cfg s he, exitTail, lastPos_of_some hlp, exitPre]
  simp only [List.append_assoc]

/-- **Leaving a region**: executing the exit sequence puts the printer's X, Y and Z exactly on the
filter's tracked position (frames unchanged). -/
theorem exit_resync (g90e : Bool) (inch : α) (cfg : Config) (s : FState α) (phys : Printer α)
    (h : WF s) (hinv : InvXYZ s phys) (he : s.excluding = true) :
    XYZeq (phys.execOuts g90e inch (T.exitExcludedRegion cfg s).2).pos s.position := by
  obtain ⟨lp, hlp, hlpok⟩ := h.lastPos he
  obtain ⟨qx, qy, qz⟩ := exit_prefix g90e inch cfg s phys hinv he hlp
  rw [exit_seq cfg s he hlp, execOuts_append, execOuts_append, execOuts_append]
  generalize phys.execOuts g90e inch (exitPre cfg s) = q at qx qy qz ⊢
  -- `q` has the filter's frames and stands at `lp`: each exit coordinate takes it to the tracked one
  have ex : moveAxis q.pos.x (some (exitCoord s.position.x lp.x)) = s.position.x := by
    rw [qx]; exact exit_axis s.position.x lp.x h.pos.x
  have ey : moveAxis q.pos.y (some (exitCoord s.position.y lp.y)) = s.position.y := by
    rw [qy]; exact exit_axis s.position.y lp.y h.pos.y
  have ez : moveAxis q.pos.z (some (exitCoord s.position.z lp.z)) = s.position.z := by
    rw [qz]; exact exit_axis s.position.z lp.z h.pos.z
  rcases lt_trichotomy (cur lp.z) (cur s.position.z) with hup | heq | hdn
  · rw [if_pos hup, if_neg (not_lt.mpr hup.le)]
    exact ⟨ex, ey, ez⟩
  · -- no Z move: the height the tool was held at is the tracked one
    rw [if_neg (heq ▸ lt_irrefl _), if_neg (heq ▸ lt_irrefl _)]
    refine ⟨ex, ey, qz.trans ?_⟩
    show ({ s.position.z with current := lp.z.current } : Axis α) = s.position.z
    rw [hlpok.z.cur_eq, heq]
    exact h.pos.z.eta
  · rw [if_neg (not_lt.mpr hdn.le), if_pos hdn]
    exact ⟨ex, ey, ez⟩

/-- **One move command** (given as the E/F/Z values and the points its handler passes to
`processLinearMoves`) preserves the invariant, provided a printer that agrees with the filter on
X/Y/Z executes the command itself to where the filter tracks it. -/
theorem plm_inv (g90e : Bool) (inch : α) (cfg : Config) (s : FState α) (phys : Printer α)
    (cmd : Cmd α) (ep fr fz : Option α) (xy : List (Option α × Option α)) (h : WF s)
    (hinv : InvXYZ s phys)
    (hexec : ∀ p : Printer α, XYZeq p.pos s.position →
      XYZeq (p.execOut g90e inch (.orig cmd)).pos (movedPos s.position ep fz xy)) :
    let r := T.processLinearMoves cfg s cmd ep fr fz xy
    InvXYZ r.1 (phys.execOuts g90e inch (fwdOf cmd r.2)) := by
  intro r
  have hc := plm_ctrl cfg s cmd ep fr fz xy
  have hout := plm_outs cfg s cmd ep fr fz xy
  have hpos : r.1.position = movedPos s.position ep fz xy := plm_pos cfg s cmd ep fr fz xy h.pos.e
  have held : ∀ lp, XYZeq (hold s.position lp) (hold r.1.position lp) := fun lp =>
    hpos ▸ (hold_movedPos s.position lp ep fz xy).symm'
  have hpn : PendingNeutral r.1 := fun e he => by
    rw [hc.pending] at he
    split at he
    · cases he
    · exact hinv.pend e he
  cases hx : s.excluding
  · have hp := hinv.free hx
    have pass : Passes cmd (fwdOf cmd r.2) →
        XYZeq (phys.execOuts g90e inch (fwdOf cmd r.2)).pos r.1.position := fun hpass => by
      obtain ⟨q, hq, e⟩ := hpass.exec g90e inch phys
      rw [e, hpos]
      exact hexec q (hq.trans hp)
    cases hh : hitOf s ep fr fz xy
    · refine .mk_free (by rw [hc.excluding, hh, hx]; exact ite_self _) ?_ hpn
      cases hm : T.isMoveOf fz xy
      · rcases hout.nonmove hm hx with hpass | hsil
        · exact pass hpass
        · -- nothing that moves was forwarded, and the filter's X, Y and Z did not move either
          rw [hpos, movedPos_of_not_move _ _ hm]
          exact (hsil.exec g90e inch phys).trans hp
      · exact pass (hout.pass hm hh hx)
    · -- entering: the printer stays where it was; that position is remembered
      exact .mk_held (by rw [hc.excluding, hitOf_isMove hh, hh]; rfl)
        (by rw [hc.lastPos, hh, hx]; rfl)
        (((hout.hit hh).exec g90e inch phys).trans (hp.trans (held s.position))) hpn
  · obtain ⟨lp, hlp, -⟩ := h.lastPos hx
    have hp := hinv.held hx hlp
    -- unless the episode is closed, only E-only commands are forwarded: the printer stays held
    have stay : r.1.excluding = true → Silent (fwdOf cmd r.2) →
        InvXYZ r.1 (phys.execOuts g90e inch (fwdOf cmd r.2)) := fun hx' hsil =>
      .mk_held hx' (by rw [hc.lastPos, hx, Bool.not_true, Bool.and_false]; exact hlp)
        ((hsil.exec g90e inch phys).trans (hp.trans (held lp))) hpn
    cases hh : hitOf s ep fr fz xy
    · cases hm : T.isMoveOf fz xy
      · exact stay (by rw [hc.excluding, hm]; exact hx) (hout.held hm hx)
      · -- the episode is closed: the exit sequence re-synchronises
        refine .mk_free (by rw [hc.excluding, hm, hh]; rfl) ?_ hpn
        rw [hout.exit hm hh hx, hpos]
        exact exit_resync g90e inch cfg _ phys (tracked_WF s ep fr fz xy h)
          (.mk_held hx hlp (hp.trans (hold_movedPos s.position lp ep fz xy).symm') hinv.pend) hx
    · exact stay (by rw [hc.excluding, hitOf_isMove hh, hh]; rfl) (hout.hit hh)

end

variable [IsStrictOrderedRing α] [MathOps α] [MathSpec α]

set_option linter.unusedSectionVars false in
/-- **Z order of the re-positioning.**  The exit sequence is `pre ++ [G0 X Y] ++ post`; after
`pre` X and Y stand where they stood; when the printer reaches the X/Y travel its Z is the higher of
the Z it had during the episode and the Z the file is at (a raise precedes the travel); `post` is
at most the lowering Z move. -/
theorem exit_zorder (g90e : Bool) (inch : α) (cfg : Config) (s : FState α) (phys : Printer α)
    (h : WF s) (hinv : InvXYZ s phys) (he : s.excluding = true) :
    ∃ pre f x y post, (T.exitExcludedRegion cfg s).2 = pre ++ [.g0xy f x y] ++ post ∧
      (phys.execOuts g90e inch pre).pos.x = phys.pos.x ∧ (phys.execOuts g90e inch pre).pos.y = phys.pos.y ∧
      cur (phys.execOuts g90e inch pre).pos.z = max (cur phys.pos.z) (cur s.position.z) ∧
      (post = [] ∨ ∃ fz z, post = [.g0z fz z] ∧ cur s.position.z < cur phys.pos.z) := by
  obtain ⟨lp, hlp, -⟩ := h.lastPos he
  obtain ⟨ix, iy, iz⟩ := hinv.held he hlp
  obtain ⟨qx, qy, qz⟩ := exit_prefix g90e inch cfg s phys hinv he hlp
  have hcz : cur phys.pos.z = cur lp.z := by rw [iz]; rfl
  -- `pre` is `exitPre` and the raise, `post` the lowering: `exit_seq` is the first clause
  have raise : ∀ (c : Prop) [Decidable c] (f z : α) (q : Printer α),
      (q.execOuts g90e inch (if c then [Out.g0z f z] else [])).pos.x = q.pos.x ∧
      (q.execOuts g90e inch (if c then [Out.g0z f z] else [])).pos.y = q.pos.y :=
    fun c _ f z q => by split <;> exact ⟨rfl, rfl⟩
  refine ⟨_, _, _, _, _, exit_seq cfg s he hlp, ?_, ?_, ?_, ?_⟩
  · rw [execOuts_append]
    exact (raise _ _ _ _).1.trans (qx.trans ix.symm)
  · rw [execOuts_append]
    exact (raise _ _ _ _).2.trans (qy.trans iy.symm)
  · rw [execOuts_append, hcz]
    generalize phys.execOuts g90e inch (exitPre cfg s) = q at qz
    by_cases hup : cur lp.z < cur s.position.z
    · rw [if_pos hup, max_eq_right hup.le]
      show cur (moveAxis q.pos.z (some _)) = _
      rw [qz]
      exact congrArg cur (exit_axis s.position.z lp.z h.pos.z)
    · rw [if_neg hup, max_eq_left (not_lt.mp hup)]
      exact (congrArg cur qz :)
  · by_cases hdn : cur s.position.z < cur lp.z
    · rw [if_pos hdn]
      exact .inr ⟨_, _, rfl, hcz ▸ hdn⟩
    · rw [if_neg hdn]
      exact .inl rfl

end ERP
