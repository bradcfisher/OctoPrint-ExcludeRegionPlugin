import ERP.Basic
import Mathlib.Algebra.Order.Field.Basic
import Mathlib.Tactic.Linarith
import Mathlib.Tactic.Ring
/-! # The assumptions on `hypot` and friends, and the plane geometry that follows from them

`MathSpec α` is what theorems over an ordered field may assume about `MathOps α`; `RealOps` gives
the instance for ℝ. Only `hypot_nonneg`, `hypot_sq` and `ofNat_eq` have users (the circle geometry
of C17, the refinement of the arc functions); C16 works on ℝ, and `centre_distance_sq` uses three
lemmas from here. The lemmas read
`hypot` as the non-negative root of `x² + y²` (`hypot_eq_iff`) and get the triangle inequality, its
equality case and the bounding square of a disc from that.
 -/
namespace ERP

class MathSpec (α : Type) [Field α] [LinearOrder α] [IsStrictOrderedRing α] [MathOps α] : Prop where
  hypot_nonneg : ∀ x y : α, 0 ≤ MathOps.hypot x y
  hypot_sq : ∀ x y : α, MathOps.hypot x y * MathOps.hypot x y = x * x + y * y
  sqrt_nonneg : ∀ x : α, 0 ≤ MathOps.sqrt x
  sqrt_sq : ∀ x : α, 0 ≤ x → MathOps.sqrt x * MathOps.sqrt x = x
  ofNat_eq : ∀ n : Nat, (MathOps.ofNat n : α) = (n : α)
  twoPi_pos : (0 : α) < MathOps.twoPi

/-! Three facts about squares and absolute values, not in Mathlib in this form. -/
section
variable {α : Type} [Field α] [LinearOrder α] [IsStrictOrderedRing α]

theorem mul_self_le_of_mem_Icc {a b x : α} (ha : a ≤ x) (hb : x ≤ b) :
    x * x ≤ a * a ∨ x * x ≤ b * b := by
  simp only [← abs_le_iff_mul_self_le, ← le_max_iff]
  exact abs_le_max_abs_abs ha hb

theorem abs_sub_le_iff_between {x c r : α} : |x - c| ≤ r ↔ c - r ≤ x ∧ x ≤ c + r := by
  rw [abs_sub_le_iff, sub_le_iff_le_add', sub_le_comm, and_comm]

theorem mul_self_le_of_le_abs {a r : α} (h0 : 0 ≤ a) (h : a ≤ |r|) : a * a ≤ r * r :=
  abs_mul_abs_self r ▸ mul_self_le_mul_self h0 h

end

section
variable {α : Type} [Field α] [LinearOrder α] [IsStrictOrderedRing α] [MathOps α] [MathSpec α]

open MathOps (hypot)
open MathSpec (hypot_nonneg hypot_sq)

theorem hypot_eq_iff {x y r : α} : hypot x y = r ↔ 0 ≤ r ∧ r * r = x * x + y * y :=
  ⟨by rintro rfl; exact ⟨hypot_nonneg x y, hypot_sq x y⟩,
   fun ⟨h0, hs⟩ => (mul_self_inj (hypot_nonneg x y) h0).mp ((hypot_sq x y).trans hs.symm)⟩

theorem hypot_le_iff {x y r : α} : hypot x y ≤ r ↔ 0 ≤ r ∧ x * x + y * y ≤ r * r := by
  rw [← hypot_sq]
  exact ⟨fun h => ⟨(hypot_nonneg x y).trans h, mul_self_le_mul_self (hypot_nonneg x y) h⟩,
    fun ⟨hr, h⟩ => (mul_self_le_mul_self_iff (hypot_nonneg x y) hr).mpr h⟩

theorem hypot_comm (x y : α) : hypot x y = hypot y x :=
  hypot_eq_iff.mpr ⟨hypot_nonneg y x, by rw [hypot_sq, add_comm]⟩

theorem hypot_neg_neg (x y : α) : hypot (-x) (-y) = hypot x y :=
  hypot_eq_iff.mpr ⟨hypot_nonneg x y, by rw [hypot_sq, neg_mul_neg, neg_mul_neg]⟩

theorem hypot_sub_comm (a b c d : α) : hypot (a - b) (c - d) = hypot (b - a) (d - c) := by
  rw [← neg_sub b a, ← neg_sub d c, hypot_neg_neg]

theorem hypot_eq_zero_iff {x y : α} : hypot x y = 0 ↔ x = 0 ∧ y = 0 := by
  rw [hypot_eq_iff, mul_zero, eq_comm, mul_self_add_mul_self_eq_zero]
  exact and_iff_right le_rfl

theorem hypot_mul_left (k a b : α) : hypot (k * a) (k * b) = |k| * hypot a b :=
  hypot_eq_iff.mpr ⟨mul_nonneg (abs_nonneg k) (hypot_nonneg a b), by
    rw [mul_mul_mul_comm, abs_mul_abs_self, hypot_sq]; ring⟩

theorem hypot_zero_right (x : α) : hypot x 0 = |x| :=
  hypot_eq_iff.mpr ⟨abs_nonneg x, by rw [abs_mul_abs_self, mul_zero, add_zero]⟩

theorem hypot_zero_left (y : α) : hypot 0 y = |y| := by rw [hypot_comm, hypot_zero_right]

theorem abs_le_hypot_left (x y : α) : |x| ≤ hypot x y :=
  (abs_le_iff_mul_self_le.mpr (by
    rw [hypot_sq]; exact le_add_of_nonneg_right (mul_self_nonneg y))).trans_eq
    (abs_of_nonneg (hypot_nonneg x y))

theorem abs_le_hypot_right (x y : α) : |y| ≤ hypot x y :=
  hypot_comm x y ▸ abs_le_hypot_left y x

/-- Cauchy–Schwarz in the plane -/
theorem inner_le_hypot_mul (a b c d : α) : a * c + b * d ≤ hypot a b * hypot c d := by
  have lagrange : (a * a + b * b) * (c * c + d * d) - (a * c + b * d) * (a * c + b * d)
      = (a * d - b * c) * (a * d - b * c) := by ring
  refine (le_abs_self _).trans ((abs_le_iff_mul_self_le.mpr ?_).trans_eq
    (abs_of_nonneg (mul_nonneg (hypot_nonneg a b) (hypot_nonneg c d))))
  rw [mul_mul_mul_comm, hypot_sq, hypot_sq, ← sub_nonneg, lagrange]
  exact mul_self_nonneg _

theorem hypot_add_le (a b c d : α) : hypot (a + c) (b + d) ≤ hypot a b + hypot c d := by
  rw [hypot_le_iff]
  refine ⟨add_nonneg (hypot_nonneg a b) (hypot_nonneg c d), ?_⟩
  linarith [hypot_sq a b, hypot_sq c d, inner_le_hypot_mul a b c d]

/-- The triangle inequality is attained: go on from `(a, b)` by `s` straight away from the origin -/
theorem exists_hypot_add_eq (a b : α) {s : α} (hs : 0 ≤ s) :
    ∃ u v, hypot u v = s ∧ hypot (a + u) (b + v) = hypot a b + s := by
  rcases eq_or_ne (hypot a b) 0 with h0 | hd
  · obtain ⟨rfl, rfl⟩ := hypot_eq_zero_iff.mp h0
    exact ⟨s, 0, by rw [hypot_zero_right, abs_of_nonneg hs],
      by rw [h0, zero_add, zero_add, hypot_zero_right, abs_of_nonneg hs]⟩
  · have hk : 0 ≤ s / hypot a b := div_nonneg hs (hypot_nonneg a b)
    refine ⟨s / hypot a b * a, s / hypot a b * b, ?_, ?_⟩
    · rw [hypot_mul_left, abs_of_nonneg hk, div_mul_cancel₀ s hd]
    · rw [← one_add_mul, ← one_add_mul, hypot_mul_left, abs_of_nonneg (add_nonneg zero_le_one hk),
        one_add_mul, div_mul_cancel₀ s hd]

theorem hypot_le_of_mul_self_le {a b c d : α} (h1 : a * a ≤ c * c) (h2 : b * b ≤ d * d) :
    hypot a b ≤ hypot c d :=
  hypot_le_iff.mpr ⟨hypot_nonneg c d, by rw [hypot_sq]; exact add_le_add h1 h2⟩

/-- the conjunction is grouped like `C17.rect_containsPoint_iff` -/
theorem bbox_of_hypot_le {x y cx cy r : α} (h : hypot (x - cx) (y - cy) ≤ r) :
    (cx - r ≤ x ∧ x ≤ cx + r) ∧ cy - r ≤ y ∧ y ≤ cy + r :=
  ⟨abs_sub_le_iff_between.mp ((abs_le_hypot_left _ _).trans h),
   abs_sub_le_iff_between.mp ((abs_le_hypot_right _ _).trans h)⟩

end
end ERP
