import ERP.Lemmas.Text
import ERP.Model.Format
/-! # Exact evaluation of `GCODE_PARAMS_REGEX` (RetractionState.py)

`GCODE_PARAMS_REGEX.sub("\\1", originalCommand)` is how a synthesised `G10`/`G11` gets the
parameters of the firmware retraction it stands for.  The regex is regenerated from the source
(`Gen.retractParams`); this file evaluates the backtracking matcher on it exactly. -/
namespace ERP.Rx

abbrev SPCc : List CC := [.cat "space"]
-- `LETc`, `RNGc`, `DOTc`: ParamScan's `LET`, `DIG`, `DOT` (not imported here)
abbrev LETc : List CC := [.range (Char.ofNat 65) (Char.ofNat 90), .range (Char.ofNat 97) (Char.ofNat 122)]
abbrev RNGc : List CC := [.range (Char.ofNat 48) (Char.ofNat 57)]
abbrev LFc : List CC := [.lit (Char.ofNat 10)]
abbrev DOTc : List CC := [.lit (Char.ofNat 46)]

def RP_TAIL : Re :=
  .seq (.rep true 0 none (.chars false SPCc)) (.seq (.group 1 (.rep true 0 none (.chars true LFc))) (.at "end"))
def RP_FRAC : Re := .rep true 0 (some 1) (.seq (.chars false DOTc) (.rep true 1 none (.chars false RNGc)))

theorem retractParams_parts : Gen.retractParams =
    .seq (.at "beginning") (.seq (.rep true 0 none (.chars false SPCc)) (.seq (.chars false LETc)
      (.seq (.rep true 1 none (.chars false RNGc)) (.seq RP_FRAC RP_TAIL)))) := rfl

theorem rp_tail (ctx : Ctx) (q w : Nat) (c : Caps)
    (hw : ClsRun ctx false SPCc q w) (hr : ClsRun ctx true LFc w ctx.s.size) :
    m ctx RP_TAIL q c (fun p c => some (p, c)) = some (ctx.s.size, (1, w, ctx.s.size) :: c) := by
  rw [RP_TAIL, m_seq]
  refine m_star_max hw ?_
  rw [m_seq, m_group]
  refine m_star_max hr ?_
  rw [m_at, if_pos (atOk_end ctx)]

theorem rp_frac {R : Type} (ctx : Ctx) (d1 q : Nat) (c : Caps) (K : Nat → Caps → Option R) (res : R)
    (hd1 : d1 ≤ ctx.s.size)
    (hfr : (q = d1 ∧ (passes ctx false DOTc d1 = false ∨ passes ctx false RNGc (d1 + 1) = false)) ∨
      (passes ctx false DOTc d1 = true ∧ d1 + 1 < q ∧ ClsRun ctx false RNGc (d1 + 1) q))
    (hK : K q c = some res) :
    m ctx RP_FRAC d1 c K = some res := by
  rw [RP_FRAC, m_opt_greedy ctx _ d1 c _ hd1, m_seq, m_chars]
  rcases hfr with ⟨rfl, hno | hno⟩ | ⟨hdot, hlt, hrun⟩
  · rw [hno]; exact hK
  · rw [m_plus_eq, hno]
    cases passes ctx false DOTc q <;> exact hK
  · rw [if_pos hdot, m_plus_max (hrun.all _ (Nat.le_refl _) hlt) hrun
      (by rw [if_neg (by rw [beq_iff_eq]; omega)]; exact hK)]
    rfl

/-- exact evaluation of `GCODE_PARAMS_REGEX.match` on
`<blanks><letter><digits>[.<digits>]<blanks><rest without line feed>` -/
theorem retractParams_eval (ctx : Ctx) (a d1 q w : Nat)
    (hws : ClsRun ctx false SPCc 0 a)
    (hlet : passes ctx false LETc a = true)
    (hd : a + 1 < d1) (hrun : ClsRun ctx false RNGc (a + 1) d1)
    (hfr : (q = d1 ∧ (passes ctx false DOTc d1 = false ∨ passes ctx false RNGc (d1 + 1) = false)) ∨
      (passes ctx false DOTc d1 = true ∧ d1 + 1 < q ∧ ClsRun ctx false RNGc (d1 + 1) q))
    (hw : ClsRun ctx false SPCc q w) (hr : ClsRun ctx true LFc w ctx.s.size) :
    matchAt Gen.retractParams ctx.s 0 = some (ctx.s.size, [(1, w, ctx.s.size)]) := by
  rw [matchAt, retractParams_parts, m_seq, m_at, if_pos (atOk_beginning ctx), m_seq]
  refine m_star_max hws ?_
  rw [m_seq, m_chars, if_pos hlet, m_seq]
  refine m_plus_max (hrun.all _ (Nat.le_refl _) hd) hrun ?_
  rw [m_seq]
  exact rp_frac _ d1 q [] _ _ hrun.inside hfr (rp_tail _ q w [] hw hr)

end ERP.Rx

namespace ERP
open ERP.Rx

def fwSpace (c : Char) : Bool := CC.test c (.cat "space")
def fwLetter (c : Char) : Bool := (65 ≤ c.toNat && c.toNat ≤ 90) || (97 ≤ c.toNat && c.toNat ≤ 122)
def fwDigit (c : Char) : Bool := 48 ≤ c.toNat && c.toNat ≤ 57

theorem letter_not_space (c : Char) (h : fwLetter c = true) : fwSpace c = false := by
  have hc : 65 ≤ c.toNat := by
    unfold fwLetter at h
    simp only [Bool.or_eq_true, Bool.and_eq_true, decide_eq_true_eq] at h
    omega
  have ne : ∀ d : Char, d.toNat < 65 → (c == d) = false := fun d hd =>
    beq_eq_false_iff_ne.mpr fun e => by rw [e] at hc; omega
  show (c == ' ' || c == '\t' || c == '\n' || c == '\r' || c.toNat == 11 || c.toNat == 12) = false
  rw [ne ' ' (by decide), ne '\t' (by decide), ne '\n' (by decide), ne '\r' (by decide),
    beq_eq_false_iff_ne.mpr (by omega : c.toNat ≠ 11), beq_eq_false_iff_ne.mpr (by omega : c.toNat ≠ 12)]
  rfl

/-- the shape of the text of a firmware retraction as the filter keeps it: blanks, one letter,
digits, an optional fraction, blanks, and the parameters (no line feed) -/
structure FwText (ws : Text) (c : Char) (ds fr ws2 r : Text) : Prop where
  ws_space : ∀ x ∈ ws, fwSpace x = true
  letter : fwLetter c = true
  ds_ne : ds ≠ []
  ds_digits : ∀ x ∈ ds, fwDigit x = true
  frac : fr = [] ∨ ∃ ds2, fr = '.' :: ds2 ∧ ds2 ≠ [] ∧ ∀ x ∈ ds2, fwDigit x = true
  ws2_space : ∀ x ∈ ws2, fwSpace x = true
  no_lf : ∀ x ∈ r, x ≠ '\n'
  -- `r_head`, `next.1`: maximal pieces; `next.2` restricts: no `.` right after an integer code
  r_head : ∀ x, r.head? = some x → fwSpace x = false
  next : ∀ x, (ws2 ++ r).head? = some x → fwDigit x = false ∧ (fr = [] → x ≠ '.')

theorem any1 (x : Char) (cc : CC) : ([cc].any (CC.test x)) = CC.test x cc := Bool.or_false _

theorem letc_test (x : Char) : (LETc.any (CC.test x) != false) = fwLetter x := by
  rw [Bool.bne_false]; exact congrArg _ (Bool.or_false _)

/-- (a variable `T` for the text: every `rw` and unification would traverse the concatenation) -/
theorem retractParams_match {ws : Text} {c : Char} {ds fr ws2 r : Text} (h : FwText ws c ds fr ws2 r)
    (T : Text) (hT : T = ws ++ c :: ds ++ fr ++ ws2 ++ r) :
    matchAt Gen.retractParams T.toArray 0 =
      some (T.length, [(1, ws.length + 1 + ds.length + fr.length + ws2.length, T.length)]) := by
  have hlen : T.length = ws.length + 1 + ds.length + fr.length + ws2.length + r.length := by
    rw [hT]; simp only [List.length_append, List.length_cons]; omega
  have hsp : ∀ x, ((SPCc.any (CC.test x)) != false) = fwSpace x := cls1 _
  have hdg : ∀ x, ((RNGc.any (CC.test x)) != false) = fwDigit x := cls1 _
  -- the text remaining after the blanks, the letter, the digits, the fraction, the second blanks
  have d0 : T.drop 0 = ws ++ (c :: (ds ++ (fr ++ (ws2 ++ r)))) := by
    rw [hT, List.drop_zero]; simp only [List.append_assoc, List.cons_append]
  have d1 := drop_step d0
  rw [Nat.zero_add] at d1
  have d2 := drop_cons d1
  have d3 := drop_step d2
  have d4 := drop_step d3
  have d5 := drop_step d4
  have h1 : ClsRun ⟨T.toArray⟩ false SPCc 0 ws.length := by
    have := clsRun_of_drop d0 (Nat.zero_le _) false SPCc (fun x hx => (hsp x).trans (h.ws_space x hx))
      (fun x hx => by cases hx; exact (hsp _).trans (letter_not_space _ h.letter))
    rwa [Nat.zero_add] at this
  have h2 : passes ⟨T.toArray⟩ false LETc ws.length = true := by
    rw [passes_drop, d1]
    exact (letc_test c).trans h.letter
  have h3 := clsRun_of_drop d2 (by omega) false RNGc (fun x hx => (hdg x).trans (h.ds_digits x hx))
    (fun x hx => (hdg x).trans <| by
      rcases h.frac with hf | ⟨ds2, hf, _, _⟩ <;> subst hf
      · exact (h.next x hx).1
      · cases hx; rfl)
  have h5 := clsRun_of_drop d4 (by omega) false SPCc (fun x hx => (hsp x).trans (h.ws2_space x hx))
    (fun x hx => (hsp x).trans (h.r_head x hx))
  have h6 := clsRun_of_drop (rest := []) (d5.trans (List.append_nil r).symm) (by omega) true LFc
    (fun x hx => by rw [any1]; exact bne_iff_ne.mpr fun e => h.no_lf x hx (beq_iff_eq.mp e)) (fun x hx => by cases hx)
  have hd : ws.length + 1 < ws.length + 1 + ds.length := by
    have := List.length_pos_iff.mpr h.ds_ne; omega
  have hsz : (⟨T.toArray⟩ : Ctx).s.size = T.length := List.size_toArray
  rw [← hlen, ← hsz] at h6
  rw [← hsz]
  refine retractParams_eval ⟨T.toArray⟩ ws.length _ _ _ h1 h2 hd h3 ?_ h5 h6
  rcases h.frac with hf | ⟨ds2, hf, hne, hd2⟩ <;> subst hf
  · refine .inl ⟨rfl, .inl ?_⟩
    rw [passes_drop, d3, List.nil_append]
    cases hp : ws2 ++ r with
    | nil => rfl
    | cons ch t => exact Bool.eq_false_iff.mpr fun e => (h.next ch (by rw [hp]; rfl)).2 rfl ((lit_test _ ch).mp e)
  · have hpos := List.length_pos_iff.mpr hne
    have hrun := clsRun_of_drop (drop_cons d3) (by rw [List.length_cons] at hlen; omega) false RNGc
      (fun x hx => (hdg x).trans (hd2 x hx)) (fun x hx => (hdg x).trans (h.next x hx).1)
    refine .inr ⟨by rw [passes_drop, d3]; rfl, by rw [List.length_cons]; omega, ?_⟩
    rwa [show ws.length + 1 + ds.length + 1 + ds2.length = ws.length + 1 + ds.length + ('.' :: ds2).length by
      rw [List.length_cons]; omega] at hrun

/-- **`GCODE_PARAMS_REGEX.sub("\\1", originalCommand)` returns exactly the parameters** of a
firmware-retraction text: everything after the code word and the blanks that follow it, for every
spelling of the code word (either case, leading blanks, fraction) -/
theorem retractParams_spec {ws : Text} {c : Char} {ds fr ws2 r : Text} (h : FwText ws c ds fr ws2 r) :
    retractParams (ws ++ c :: ds ++ fr ++ ws2 ++ r) = r := by
  have hm := retractParams_match h _ rfl
  have hd : (ws ++ c :: ds ++ fr ++ ws2 ++ r).drop (ws.length + 1 + ds.length + fr.length + ws2.length) =
      r ++ [] := by
    rw [List.append_nil]
    exact List.drop_left' (by simp only [List.length_append, List.length_cons]; omega)
  have hs := slice_of_drop hd
  rw [show ws.length + 1 + ds.length + fr.length + ws2.length + r.length =
    (ws ++ c :: ds ++ fr ++ ws2 ++ r).length by simp only [List.length_append, List.length_cons]; omega] at hs
  unfold retractParams
  rw [hm]
  show (capText _ _ 1).getD [] ++ _ = r
  rw [capText_of (capOf_cons_eq) hs, Option.getD_some, List.drop_length, List.append_nil]

/-- a synthesised firmware retraction / recovery: `G10` / `G11` and exactly the parameters it stands for -/
theorem render_fw {α : Type} (nt : α → Text) (recover : Bool) {ws : Text} {c : Char} {ds fr ws2 r : Text}
    (h : FwText ws c ds fr ws2 r) :
    render nt (.fw recover (ws ++ c :: ds ++ fr ++ ws2 ++ r)) =
      .ok (if r.isEmpty then (if recover then "G11" else "G10").toList
           else (if recover then "G11" else "G10").toList ++ [' '] ++ r) := by
  simp only [render, retractParams_spec h]

/-- non-vacuity: `G10 S1` has the shape -/
example : FwText [] 'G' ['1', '0'] [] [' '] ['S', '1'] where
  ws_space := by decide
  letter := rfl
  ds_ne := by decide
  ds_digits := by decide
  frac := .inl rfl
  ws2_space := by decide
  no_lf := by decide
  r_head := fun x h => by cases h; rfl
  next := fun x h => by cases h; exact ⟨rfl, fun _ => by decide⟩

/-- and so has the lower-case, indented spelling ` g10  s1` -/
theorem fwText_g10 : FwText [' '] 'g' ['1', '0'] [] [' ', ' '] ['s', '1'] where
  ws_space := by decide
  letter := rfl
  ds_ne := by decide
  ds_digits := by decide
  frac := .inl rfl
  ws2_space := by decide
  no_lf := by decide
  r_head := fun x h => by cases h; rfl
  next := fun x h => by cases h; exact ⟨rfl, fun _ => by decide⟩

example : FwText [' '] 'g' ['1', '0'] [] [' ', ' '] ['s', '1'] := fwText_g10
example : retractParams " g10  s1".toList = "s1".toList := retractParams_spec fwText_g10

end ERP
