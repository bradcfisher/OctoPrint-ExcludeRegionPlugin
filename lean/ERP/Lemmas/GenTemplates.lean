import ERP.Lemmas.GenArith
import ERP.Model.Format
/-! # The text of a synthesised command is its template, filled in

`render` builds the text by concatenation; `render_is_template` reads it as Python's
`template.format(...)` on the template strings of `Out.shape`, which `gen_exitCommands` and
`addCommands_templates` compare with the source.  The source calls `format` with keyword arguments;
`fillTemplate` fills the slots in order: that the numbers of `Out.shape` stand in template order is
a modelling choice, checked by `gen_exitCommands` for the exit sequence, by eye for `_addCommands`. -/
namespace ERP

/-- `template.format(...)` with the arguments in template order: every `{name}` is replaced by the
next argument (`inside` = between `{` and `}`) -/
def fillTemplate : List Char → Bool → List Text → Text
  | [], _, _ => []
  | c :: rest, false, args =>
    if c == '{' then
      match args with
      | a :: as => a ++ fillTemplate rest true as
      | [] => fillTemplate rest true []
    else c :: fillTemplate rest false args
  | c :: rest, true, args => if c == '}' then fillTemplate rest false args else fillTemplate rest true args

theorem map_mapM_nil {ε β γ δ : Type} (g : β → Except ε γ) (h : List γ → δ) :
    (([] : List β).mapM g).map h = .ok (h []) := rfl

theorem map_mapM_cons {ε β γ δ : Type} (g : β → Except ε γ) (a : β) (as : List β) (h : List γ → δ) :
    ((a :: as).mapM g).map h = g a >>= fun x => (as.mapM g).map fun xs => h (x :: xs) := by
  rw [List.mapM_cons]
  cases g a with
  | error e => rfl
  | ok x => cases as.mapM g <;> rfl

variable {α : Type} [Add α] [Sub α] [Mul α] [Div α] [Neg α] [LT α] [LE α] [BEq α]
  [OfNat α 0] [OfNat α 1] [OfNat α 2] [DecidableLT α] [DecidableLE α] [MathOps α]

set_option linter.unusedSectionVars false in
/-- The strings `render` produces for `G92 E…`, `G0 F… Z…`, `G0 F… X… Y…`, `G1 F… E…` are the
source's format templates (`Gen.addCommandsTemplates`, `Gen.exitCommands`) with `formatNumber` of
the numbers in template order. -/
theorem render_is_template (nt : α → Text) (o : Out α) (tpl : String) (args : List α)
    (h : Out.shape o = some (tpl, args)) :
    render nt o = (args.mapM (fmtNum nt)).map (fillTemplate tpl.toList false) := by
  -- both sides bind the formatted numbers in the same order; under the binders the closing `simp`
  -- walks the literal template and checks it yields the characters `render` concatenates
  cases o with
  | g92e e =>
    obtain ⟨rfl, rfl⟩ := Prod.mk.inj (Option.some.inj h)
    simp only [map_mapM_cons, map_mapM_nil, render]
    refine bind_congr fun x => congrArg Except.ok ?_
    simp [fillTemplate]
  | g0z f z =>
    obtain ⟨rfl, rfl⟩ := Prod.mk.inj (Option.some.inj h)
    simp only [map_mapM_cons, map_mapM_nil, render]
    refine bind_congr fun x => bind_congr fun y => congrArg Except.ok ?_
    simp [fillTemplate]
  | g0xy f x y =>
    obtain ⟨rfl, rfl⟩ := Prod.mk.inj (Option.some.inj h)
    simp only [map_mapM_cons, map_mapM_nil, render]
    refine bind_congr fun a => bind_congr fun b => bind_congr fun c => congrArg Except.ok ?_
    simp [fillTemplate]
  | g1fe f e =>
    obtain ⟨rfl, rfl⟩ := Prod.mk.inj (Option.some.inj h)
    simp only [map_mapM_cons, map_mapM_nil, render]
    refine bind_congr fun x => bind_congr fun y => congrArg Except.ok ?_
    simp [fillTemplate]
  | orig c => cases h
  | script b t => cases h
  | fw r t => cases h
  | merged g a => cases h

end ERP
