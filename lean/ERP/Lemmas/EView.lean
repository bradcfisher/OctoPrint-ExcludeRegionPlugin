import ERP.Spec.Printer
import ERP.Lemmas.Spec
/-! # The extruder side of the reference printer

What a printer does to its E axis, its filament counters and its firmware-retraction flag depends
only on those (`Printer.ev`), never on X/Y/Z. -/
namespace ERP
open Spec

structure EV (α : Type) where
  e : Axis α
  fil : α
  hw : α
  fw : Bool

section
variable {α : Type} [Field α] [LinearOrder α]

def Spec.Printer.ev (p : Printer α) : EV α := ⟨p.pos.e, p.fil, p.hw, p.fwRetracted⟩

def EV.depth (v : EV α) : α := v.hw - v.fil

/-- a move with an optional E word; even without one it resets `hw` unless `fil ≤ hw` (hence
`0 ≤ depth` in `OrigActs`, `EV.lin_none`, `EV.goto_self`) -/
def EV.lin (v : EV α) (e : Option α) : EV α :=
  let ea := moveAxis v.e e
  let fil := v.fil + (coord ea - coord v.e)
  { v with e := ea, fil := fil, hw := maxA v.hw fil }

/-- `G92 E<x>` -/
def EV.setE (v : EV α) (x : α) : EV α :=
  { v with e := { v.e with current := some (x * v.e.unitMultiplier + (v.e.offset + v.e.homeOffset)) } }

/-- the clauses of `Printer.exec` that touch E, `fil`, `hw`, `fwRetracted` (`ev_exec`) -/
def EV.exec (g90e : Bool) (inch : α) (v : EV α) (code : Code) (w : List (Char × Option α)) : EV α :=
  match code with
  | .G0 | .G1 => v.lin (lastValue w 'E')
  | .G2 | .G3 =>
    if !((lastValue w 'I').getD 0 == 0) || !((lastValue w 'J').getD 0 == 0) then v.lin (lastValue w 'E') else v
  | .G92 => match lastValue w 'E' with | some x => v.setE x | none => v
  | .G90 => if g90e then { v with e := v.e.setAbsoluteMode true } else v
  | .G91 => if g90e then { v with e := v.e.setAbsoluteMode false } else v
  | .G20 => { v with e := v.e.setUnitMultiplier inch }
  | .G21 => { v with e := v.e.setUnitMultiplier 1 }
  | .G10 => if hasLetter w 'P' || hasLetter w 'L' then v else { v with fw := true }
  | .G11 => { v with fw := false }
  | .M206 | .G28 | .other _ => v

/-- likewise for `Printer.execOut` (`ev_execOut`) -/
def EV.out (g90e : Bool) (inch : α) (v : EV α) : Out α → EV α
  | .orig c => v.exec g90e inch (Code.ofString c.code) c.words
  | .script _ _ => v
  | .g92e e => v.setE e
  | .g0z _ _ => v.lin none
  | .g0xy _ _ _ => v.lin none
  | .g1fe _ e => v.lin (some e)
  | .fw recover _ => { v with fw := !recover }
  | .merged _ _ => v

def EV.outs (g90e : Bool) (inch : α) (v : EV α) (l : List (Out α)) : EV α := l.foldl (EV.out g90e inch) v

theorem EV.outs_nil (g90e : Bool) (inch : α) (v : EV α) : v.outs g90e inch [] = v := rfl

theorem EV.outs_cons (g90e : Bool) (inch : α) (v : EV α) (o : Out α) (l : List (Out α)) :
    v.outs g90e inch (o :: l) = (v.out g90e inch o).outs g90e inch l := rfl

theorem EV.outs_single (g90e : Bool) (inch : α) (v : EV α) (o : Out α) :
    v.outs g90e inch [o] = v.out g90e inch o := rfl

theorem EV.outs_append (g90e : Bool) (inch : α) (v : EV α) (l1 l2 : List (Out α)) :
    v.outs g90e inch (l1 ++ l2) = (v.outs g90e inch l1).outs g90e inch l2 := by
  unfold EV.outs
  exact List.foldl_append

theorem ev_exec (g90e : Bool) (inch : α) (p : Printer α) (code : Code) (w : List (Char × Option α)) :
    (p.exec g90e inch code w).ev = p.ev.exec g90e inch code w := by
  cases code with
  | G2 | G3 | G10 => simp only [Printer.exec, EV.exec]; split <;> rfl
  | G90 | G91 => simp only [Printer.exec, EV.exec]; cases g90e <;> rfl
  | G92 => simp only [Printer.exec, EV.exec]; cases lastValue w 'E' <;> rfl
  | _ => rfl

theorem ev_execOut (g90e : Bool) (inch : α) (p : Printer α) (o : Out α) :
    (p.execOut g90e inch o).ev = p.ev.out g90e inch o := by
  cases o with
  | orig c => exact ev_exec _ _ _ _ _
  | _ => rfl

theorem ev_execOuts (g90e : Bool) (inch : α) (l : List (Out α)) :
    ∀ p : Printer α, (p.execOuts g90e inch l).ev = p.ev.outs g90e inch l := by
  induction l with
  | nil => intro p; rfl
  | cons o rest ih =>
    intro p
    rw [EV.outs_cons, ← ev_execOut, ← ih]
    rfl

/-- outputs that do not concern the extruder -/
def ENeutral (g90e : Bool) (inch : α) (o : Out α) : Prop := ∀ v : EV α, v.out g90e inch o = v

theorem outs_neutral (g90e : Bool) (inch : α) (l : List (Out α))
    (h : ∀ o ∈ l, ENeutral g90e inch o) (v : EV α) : v.outs g90e inch l = v := by
  induction l generalizing v with
  | nil => rfl
  | cons o rest ih =>
    rw [EV.outs_cons, h o List.mem_cons_self, ih fun o' ho' => h o' (List.mem_cons_of_mem _ ho')]

theorem neutral_of_other (g90e : Bool) (inch : α) (c : Cmd α)
    (h : ∃ n, Code.ofString c.code = .other n) : ENeutral g90e inch (.orig c) := by
  obtain ⟨n, hn⟩ := h
  intro v
  simp only [EV.out, hn, EV.exec]

end

section
-- end results, over the instance list of the property modules
set_option linter.unusedSectionVars false
variable {α : Type} [Field α] [LinearOrder α] [IsStrictOrderedRing α] [MathOps α] [MathSpec α]

theorem ev_depth (p : Printer α) : p.ev.depth = p.depth := rfl

theorem ev_fw (p : Printer α) : p.ev.fw = p.fwRetracted := rfl

theorem ev_linear (p : Printer α) (x y z e : Option α) : (p.linear x y z e).ev = p.ev.lin e := rfl

end

end ERP
