import ERP.Lemmas.Regex
import ERP.Model.Parser
/-! # Texts as lists of characters

The matcher works on `src.toArray`, the parser cuts `slice`s out of `src`: class tests and maximal
runs at known positions of a text given as a concatenation, `slice`, `capText`, decimal numerals. -/
namespace ERP
open ERP.Rx

theorem passes_toArray (l : Text) (neg : Bool) (items : List CC) (i : Nat) :
    passes ⟨l.toArray⟩ neg items i = (l[i]?.map fun ch => items.any (CC.test ch) != neg).getD false := by
  by_cases hi : i < l.length
  · rw [passes_eq (List.size_toArray ▸ hi), List.getElem?_eq_getElem hi]
    rfl
  · rw [passes_ge (List.size_toArray ▸ Nat.not_lt.mp hi), List.getElem?_eq_none (Nat.not_lt.mp hi)]
    rfl

theorem passes_char {l : Text} {i : Nat} {ch : Char} (h : l[i]? = some ch) (neg : Bool) (items : List CC) :
    passes ⟨l.toArray⟩ neg items i = (items.any (CC.test ch) != neg) := by
  rw [passes_toArray, h]; rfl

theorem passes_lit_of_not_mem (src : Text) {a : Char} (h : a ∉ src) : ∀ i, passes ⟨src.toArray⟩ false [.lit a] i = false := by
  intro i
  rw [passes_toArray]
  cases hg : src[i]? with
  | none => rfl
  | some ch =>
    exact Bool.eq_false_iff.mpr fun e => h ((lit_test _ ch).mp e ▸ List.mem_of_getElem? hg)

/-! ## the text remaining at a position

`l.drop p = A ++ B` says that `A` stands at position `p`; stepping over `A` gives the text remaining
at `p + A.length`.  A text given as a concatenation is walked this way, one piece at a time, with no
re-bracketing per position. -/

theorem passes_drop (l : Text) (neg : Bool) (items : List CC) (p : Nat) :
    passes ⟨l.toArray⟩ neg items p =
      match l.drop p with
      | ch :: _ => items.any (CC.test ch) != neg
      | [] => false := by
  rw [passes_toArray, ← List.head?_drop]
  cases l.drop p <;> rfl

theorem drop_step {l : Text} {p : Nat} {A B : Text} (h : l.drop p = A ++ B) : l.drop (p + A.length) = B := by
  rw [← List.drop_drop, h, List.drop_left]

/-- `drop_step` over one character.  (Stated apart: unifying `ch :: B` with `[ch] ++ ?B` makes the
elaborator evaluate whatever `B` contains.) -/
theorem drop_cons {l : Text} {p : Nat} {ch : Char} {B : Text} (h : l.drop p = ch :: B) : l.drop (p + 1) = B :=
  drop_step (A := [ch]) h

theorem getElem?_of_drop {l : Text} {p : Nat} {A B : Text} (h : l.drop p = A ++ B) {j : Nat} (hj : j < A.length) :
    l[p + j]? = some A[j] := by
  rw [← List.getElem?_drop, h, List.getElem?_append_left hj, List.getElem?_eq_getElem hj]

theorem passes_piece {l : Text} {p : Nat} {A B : Text} (h : l.drop p = A ++ B) (neg : Bool) (items : List CC)
    (hall : ∀ c ∈ A, (items.any (CC.test c) != neg) = true) :
    ∀ i, p ≤ i → i < p + A.length → passes ⟨l.toArray⟩ neg items i = true := by
  intro i h1 h2
  have hj : i - p < A.length := by omega
  rw [passes_char (ch := A[i - p]) (by rw [← getElem?_of_drop h hj, Nat.add_sub_cancel' h1]) neg items]
  exact hall _ (List.getElem_mem hj)

theorem clsRun_of_drop {l : Text} {p : Nat} {run rest : Text} (h : l.drop p = run ++ rest) (hp : p ≤ l.length)
    (neg : Bool) (items : List CC) (hall : ∀ c ∈ run, (items.any (CC.test c) != neg) = true)
    (hrest : ∀ c, rest.head? = some c → (items.any (CC.test c) != neg) = false) :
    ClsRun ⟨l.toArray⟩ neg items p (p + run.length) := by
  refine .of_stop (by rw [List.size_toArray]; exact hp) (Nat.le_add_right _ _) (passes_piece h neg items hall) ?_
  rw [passes_drop, drop_step h]
  cases rest with
  | nil => rfl
  | cons ch t => exact hrest ch rfl

theorem slice_of_drop {l : Text} {p : Nat} {A B : Text} (h : l.drop p = A ++ B) : slice l p (p + A.length) = A := by
  rw [slice, h, Nat.add_sub_cancel_left, List.take_left]

/-- `slice_of_drop` over one character (stated apart for the reason given at `drop_cons`) -/
theorem slice_cons {l : Text} {p : Nat} {ch : Char} {B : Text} (h : l.drop p = ch :: B) : slice l p (p + 1) = [ch] :=
  slice_of_drop (A := [ch]) h

theorem slice_self (s : Text) (a : Nat) : slice s a a = [] := by
  rw [slice, Nat.sub_self, List.take_zero]

theorem slice_append (s : Text) (a b c : Nat) (hab : a ≤ b) (hbc : b ≤ c) :
    slice s a b ++ slice s b c = slice s a c := by
  unfold slice
  have h1 : c - a = (b - a) + (c - b) := by omega
  have h2 : s.drop b = (s.drop a).drop (b - a) := by rw [List.drop_drop]; congr 1; omega
  rw [h1, List.take_add, h2]

theorem slice_drop (s : Text) (a b : Nat) (hab : a ≤ b) : slice s a b ++ s.drop b = s.drop a := by
  unfold slice
  have h2 : s.drop b = (s.drop a).drop (b - a) := by rw [List.drop_drop]; congr 1; omega
  rw [h2, List.take_append_drop]

theorem slice_length (s : Text) (a b : Nat) (hb : b ≤ s.length) : (slice s a b).length = b - a := by
  rw [slice, List.length_take, List.length_drop]
  omega

theorem slice_ne_nil (s : Text) (a b : Nat) (hab : a < b) (hb : b ≤ s.length) : slice s a b ≠ [] := by
  intro h
  have := slice_length s a b hb
  rw [h, List.length_nil] at this
  omega

theorem slice_single (s : Text) (i : Nat) (h : i < s.length) : slice s i (i + 1) = [s[i]] := by
  unfold slice
  rw [Nat.add_sub_cancel_left, List.drop_eq_getElem_cons h]; rfl

theorem getElem?_slice (s : Text) (a b j : Nat) (hj : j < b - a) : (slice s a b)[j]? = s[a + j]? := by
  rw [slice, List.getElem?_take_of_lt hj, List.getElem?_drop]

theorem mem_slice {s : Text} {a b : Nat} {c : Char} (h : c ∈ slice s a b) :
    ∃ i, a ≤ i ∧ i < b ∧ s[i]? = some c := by
  obtain ⟨j, hj⟩ := List.mem_iff_getElem?.mp h
  have hlt : j < b - a := by
    have := (List.getElem?_eq_some_iff.mp hj).1
    rw [slice, List.length_take] at this
    omega
  exact ⟨a + j, Nat.le_add_right _ _, by omega, (getElem?_slice s a b j hlt).symm.trans hj⟩

theorem slice_all (src : Text) (neg : Bool) (items : List CC) (a b : Nat)
    (h : ∀ i, a ≤ i → i < b → passes ⟨src.toArray⟩ neg items i = true) :
    ∀ c ∈ slice src a b, ((items.any (CC.test c)) != neg) = true := by
  intro c hc
  obtain ⟨i, h1, h2, h3⟩ := mem_slice hc
  rw [← passes_char h3 neg items]
  exact h i h1 h2

theorem slice_subset (src : Text) (a b : Nat) : ∀ c ∈ slice src a b, c ∈ src := fun _ hc =>
  let ⟨_, _, _, h3⟩ := mem_slice hc
  List.mem_of_getElem? h3

theorem slice_head (src : Text) (a b : Nat) (hab : a < b) : (slice src a b).head? = src[a]? := by
  rw [List.head?_eq_getElem?, getElem?_slice src a b 0 (Nat.sub_pos_of_lt hab)]
  rfl

theorem slice_getLast (src : Text) (a b : Nat) (hab : a < b) (hb : b ≤ src.length) :
    (slice src a b).getLast? = src[b - 1]? := by
  rw [List.getLast?_eq_getElem?, slice_length src a b hb,
    getElem?_slice src a b _ (Nat.sub_lt (Nat.sub_pos_of_lt hab) Nat.one_pos)]
  congr 1
  omega

theorem slice_split (s : Text) {a b c : Nat} (hab : a < b) (hbc : b ≤ c) (hb : b - 1 < s.length) :
    slice s a c = slice s a (b - 1) ++ s[b - 1] :: slice s b c := by
  have h1 := slice_single s (b - 1) hb
  rw [Nat.sub_add_cancel (Nat.one_le_of_lt hab)] at h1
  rw [← slice_append s a (b - 1) c (Nat.le_sub_one_of_lt hab) (Nat.le_trans (Nat.sub_le b 1) hbc),
    ← slice_append s (b - 1) b c (Nat.sub_le b 1) hbc, h1]
  rfl

/-- dropping a suffix of known length, as `text[:-len(rawChecksum)]` does -/
theorem take_sub_cons (X : Text) (x : Char) (S : Text) :
    (X ++ x :: S).take ((X ++ x :: S).length - (S.length + 1)) = X := by
  rw [List.length_append, List.length_cons, Nat.add_sub_cancel, List.take_left']; rfl

theorem capText_of {s : Text} {c : Caps} {i a b : Nat} {t : Text} (h : capOf c i = some (a, b))
    (hs : slice s a b = t) : capText s c i = some t := by
  rw [capText, h, ← hs]; rfl

theorem capText_none {s : Text} {c : Caps} {i : Nat} (h : capOf c i = none) : capText s c i = none := by
  rw [capText, h]; rfl

/-- an optional group -/
theorem capText_opt {s : Text} {c : Caps} {i : Nat} {α : Type} {o : Option α} {f : α → Nat × Nat} {t : α → Text}
    (h : capOf c i = o.map f) (hs : ∀ v, o = some v → slice s (f v).1 (f v).2 = t v) :
    capText s c i = o.map t := by
  cases o with
  | none => exact capText_none h
  | some v => exact capText_of h (hs v rfl)

theorem capText_single {src : Text} {caps : Caps} {i a : Nat} (h : capOf caps i = some (a, a + 1))
    (ha : a < src.length) : capText src caps i = some [src[a]] :=
  capText_of h (slice_single src a ha)

theorem mem_intersperse_of_mem {sep x : Text} : ∀ {l : List Text}, x ∈ l → x ∈ l.intersperse sep
  | [_], h => h
  | y :: z :: zs, h => by
    rw [List.intersperse_cons_cons]
    rcases List.mem_cons.mp h with rfl | h
    · exact List.mem_cons_self
    · exact List.mem_cons_of_mem _ (List.mem_cons_of_mem _ (mem_intersperse_of_mem h))

theorem intercalate_ne_nil_of_mem (sep : Text) (l : List Text) (x : Text) (hx : x ∈ l) (hne : x ≠ []) :
    sep.intercalate l ≠ [] := fun he =>
  hne (List.flatten_eq_nil_iff.mp he x (mem_intersperse_of_mem hx))

theorem natToText_digits (n : Nat) : ∀ c ∈ natToText n, c.isDigit = true := by
  intro c hc
  unfold natToText at hc
  rw [Nat.toList_repr] at hc
  exact Nat.isDigit_of_mem_toDigits (by decide) (by decide) hc

theorem natToText_ne_nil (n : Nat) : natToText n ≠ [] := by
  unfold natToText
  rw [Nat.toList_repr]
  exact Nat.toDigits_ne_nil

theorem digitsToNat_eq (t : Text) : digitsToNat t = Nat.ofDigitChars 10 t 0 :=
  congrArg (fun f => t.foldl f 0)
    (funext fun n => funext fun c => congrArg (· + (c.toNat - 48)) (Nat.mul_comm n 10))

theorem digitsToNat_natToText (n : Nat) : digitsToNat (natToText n) = n := by
  rw [digitsToNat_eq, natToText, Nat.toList_repr]
  exact Nat.ofDigitChars_ten_toDigits

theorem map_digitsToNat_natToText (o : Option Nat) : (o.map natToText).map digitsToNat = o := by
  cases o with
  | none => rfl
  | some n => exact congrArg some (digitsToNat_natToText n)

theorem digitsToNat_append (a b : Text) :
    digitsToNat (a ++ b) = digitsToNat a * 10 ^ b.length + digitsToNat b := by
  rw [digitsToNat_eq, digitsToNat_eq, digitsToNat_eq, Nat.ofDigitChars_append,
    Nat.ofDigitChars_eq_ofDigitChars_zero, Nat.mul_comm]

theorem digitsToNat_zeros (n : Nat) : digitsToNat (List.replicate n '0') = 0 := by
  rw [digitsToNat_eq, Nat.ofDigitChars_replicate_zero, Nat.mul_zero]

theorem digitsToNat_zeros_append (k : Nat) (d : Text) :
    digitsToNat (List.replicate k '0' ++ d) = digitsToNat d := by
  rw [digitsToNat_append, digitsToNat_zeros, Nat.zero_mul, Nat.zero_add]

theorem digitsToNat_append_zeros (d : Text) (k : Nat) :
    digitsToNat (d ++ List.replicate k '0') = digitsToNat d * 10 ^ k := by
  rw [digitsToNat_append, digitsToNat_zeros, List.length_replicate, Nat.add_zero]

end ERP
