import ERP.Lemmas.EView
import ERP.Lemmas.Branches
import ERP.Lemmas.Track
import ERP.Lemmas.GenArith
import Mathlib.Tactic.SplitIfs
import Mathlib.Tactic.FieldSimp
/-! # The extruder invariant

`EV.goto`/`EV.jump`: an extruder changes coordinate with the filament or (`G92 E`) without.
`EProto`: retraction style of a program; `Retd`, `RetrInv`: who is retracted, coupled to the
filter's record.  `MoveOK`/`NonMoveOK`, `ActsAs`/`OrigActs`: what the protocol asks of a G0–G3
command, how the command acts on a printer.  `EInv`: filter, physical and virtual printer agree;
`Mid`: the same in mid-command.  `EStep`: what one branch of `processLinearMoves` (normal form:
`Lemmas/Branches`) does to the extruder — one lemma per branch, put together by `plm_estep`. -/
namespace ERP
open T Spec

-- one instance list for the file
set_option linter.unusedSectionVars false
variable {α : Type} [Field α] [LinearOrder α] [IsStrictOrderedRing α] [MathOps α] [MathSpec α]

/-- declare the native E coordinate to be `c` (`G92 E`) -/
def EV.jump (v : EV α) (c : α) : EV α := { v with e := { v.e with current := some c } }

theorem EV.jump_frame (v : EV α) (c : α) : sameFrame (v.jump c).e v.e := ⟨rfl, rfl, rfl, rfl⟩

theorem EV.jump_depth (v : EV α) (c : α) : (v.jump c).depth = v.depth := rfl
theorem EV.jump_fil (v : EV α) (c : α) : (v.jump c).fil = v.fil := rfl
theorem EV.jump_hw (v : EV α) (c : α) : (v.jump c).hw = v.hw := rfl
theorem EV.jump_fw (v : EV α) (c : α) : (v.jump c).fw = v.fw := rfl
theorem EV.jump_cur (v : EV α) (c : α) : (v.jump c).e.current = some c := rfl
theorem EV.cur_jump (v : EV α) (c : α) : cur (v.jump c).e = c := rfl

theorem EV.setE_n2lAbs (v : EV α) (a : Axis α) (c : α) (hf : sameFrame v.e a)
    (hu : a.unitMultiplier ≠ 0) : v.setE (n2lAbs a c) = v.jump c := by
  obtain ⟨f1, f2, f3, f4⟩ := hf
  simp only [EV.setE, EV.jump, n2lAbs, f1, f2, f4]
  congr 3
  field_simp
  ring

theorem EV.setE_n2l (v : EV α) (a : Axis α) (hf : sameFrame v.e a) (hu : a.unitMultiplier ≠ 0) :
    v.setE (n2l a) = v.jump (cur a) := EV.setE_n2lAbs v a (cur a) hf hu

/-- go to native E coordinate `c`, pushing (or pulling) the filament in between -/
def EV.goto (v : EV α) (c : α) : EV α :=
  { v with e := { v.e with current := some c }, fil := v.fil + (c - cur v.e),
           hw := maxA v.hw (v.fil + (c - cur v.e)) }

theorem EV.goto_frame (v : EV α) (c : α) : sameFrame (v.goto c).e v.e := ⟨rfl, rfl, rfl, rfl⟩
theorem EV.goto_fw (v : EV α) (c : α) : (v.goto c).fw = v.fw := rfl
theorem EV.goto_cur (v : EV α) (c : α) : (v.goto c).e.current = some c := rfl
theorem EV.cur_goto (v : EV α) (c : α) : cur (v.goto c).e = c := rfl

/-- the filament moved is taken off the depth, down to `0` (a new high-water mark) -/
theorem EV.goto_depth (v : EV α) (c : α) : (v.goto c).depth = max (v.depth - (c - cur v.e)) 0 := by
  simp only [EV.depth, EV.goto, maxA]
  split
  · rename_i h
    rw [max_eq_right (by rw [sub_sub]; exact sub_nonpos.mpr h.le), sub_self]
  · rename_i h
    rw [max_eq_left (by rw [sub_sub]; exact sub_nonneg.mpr (not_lt.mp h)), sub_sub]

theorem EV.goto_same_depth (v : EV α) (c c0 : α) (hc : v.e.current = some c0) (hd : 0 ≤ v.depth)
    (h0 : 0 ≤ c - c0) (h1 : 0 < c - c0 → v.depth = 0) : (v.goto c).depth = v.depth := by
  rw [EV.goto_depth, cur_of_current hc]
  rcases eq_or_lt_of_le h0 with h | h
  · rw [← h, sub_zero, max_eq_left hd]
  · rw [h1 h, zero_sub, max_eq_right (neg_nonpos.mpr h0)]

theorem EV.goto_self (v : EV α) (c : α) (hc : v.e.current = some c) (hd : 0 ≤ v.depth) :
    v.goto c = v := by
  obtain ⟨⟨c1, h1, o1, a1, u1⟩, fil, hw, fw⟩ := v
  cases hc
  have : ¬ hw < fil := not_lt.mpr (sub_nonneg.mp hd)
  simp only [EV.goto, cur, Option.getD_some, sub_self, add_zero, maxA, this, if_false]

theorem EV.lin_fil (v : EV α) (e : Option α) :
    (v.lin e).fil - v.fil = coord (moveAxis v.e e) - coord v.e := add_sub_cancel_left _ _

theorem EV.lin_none (v : EV α) (hd : 0 ≤ v.depth) : v.lin none = v := by
  have : ¬ v.hw < v.fil := not_lt.mpr (sub_nonneg.mp hd)
  simp only [EV.lin, moveAxis, sub_self, add_zero, maxA, this, if_false]

theorem EV.lin_some (v : EV α) (a : Axis α) (x : α) (hf : sameFrame v.e a)
    (habs : a.absoluteMode = true) : v.lin (some x) = v.goto (l2n a x) := by
  obtain ⟨f1, f2, f3, f4⟩ := hf
  simp only [EV.lin, EV.goto, moveAxis, target, f3, habs, if_true, l2n, coord, f1, f2, f4, cur,
    Option.getD_some]

theorem EV.lin_n2l (v : EV α) (a : Axis α) (hf : sameFrame v.e a) (habs : a.absoluteMode = true)
    (hu : a.unitMultiplier ≠ 0) : v.lin (some (n2l a)) = v.goto (cur a) := by
  rw [EV.lin_some v a _ hf habs, l2n_n2l_abs a habs hu]

/-- the printer's extruder is where and as the file assumes: axis, depth and flag (the filament
counters themselves differ by what the filter has suppressed) -/
structure EV.Agrees (Q V : EV α) : Prop where
  e : Q.e = V.e
  depth : Q.depth = V.depth
  fw : Q.fw = V.fw

theorem EV.Agrees.goto {Q V : EV α} (h : Q.Agrees V) (c : α) : (Q.goto c).Agrees (V.goto c) :=
  ⟨congrArg (fun a : Axis α => { a with current := some c }) h.e,
    by rw [EV.goto_depth, EV.goto_depth, h.e, h.depth], h.fw⟩

/-- retraction style of a program: firmware (`G10`/`G11`) or E-only retractions of length `A` (mm) -/
structure EProto (α : Type) [Field α] [LinearOrder α] where
  fw : Bool
  A : α
  hA : 0 < A

def RetrInv (pr : EProto α) (lr : Option (Retraction α)) (P V : EV α) : Prop :=
  match pr.fw, lr with
  | true, none => P.depth = 0 ∧ V.depth = 0 ∧ P.fw = false ∧ V.fw = false
  | true, some r => P.depth = 0 ∧ V.depth = 0 ∧ r.firmwareRetract = true ∧ P.fw = true ∧
      V.fw = !r.recoverExcluded
  | false, none => P.fw = false ∧ V.fw = false ∧ P.depth = 0 ∧ V.depth = 0
  | false, some r => P.fw = false ∧ V.fw = false ∧ r.firmwareRetract = false ∧
      r.extrusionAmount = some pr.A ∧ P.depth = pr.A ∧ V.depth = (if r.recoverExcluded then 0 else pr.A)

/-- a printer that is retracted (`b`) or not, in the style of the program: pulled by `A` in the
E-only style, flagged in the firmware style -/
def Retd (pr : EProto α) (b : Bool) (Q : EV α) : Prop :=
  Q.depth = (if b && !pr.fw then pr.A else 0) ∧ Q.fw = (b && pr.fw)

def Styled (pr : EProto α) (r : Retraction α) : Prop :=
  r.firmwareRetract = pr.fw ∧ (pr.fw = false → r.extrusionAmount = some pr.A)

/-- `RetrInv` without the case distinction: the printer is retracted iff a retraction is recorded,
the file iff one is recorded whose recovery is not owed.  The proofs work with this reading. -/
theorem retrInv_iff {pr : EProto α} {lr : Option (Retraction α)} {P V : EV α} :
    RetrInv pr lr P V ↔ Retd pr lr.isSome P ∧ Retd pr (lr.any fun r => !r.recoverExcluded) V ∧
      ∀ r, lr = some r → Styled pr r := by
  unfold RetrInv Retd Styled
  -- per case the same facts in another order: depth and flag of the printer (`pd`, `pf`) and of
  -- the file (`vd`, `vf`), style and amount of the record (`rs`, `ra`)
  cases hf : pr.fw <;> rcases lr with _ | ⟨owed, ac, fwr, ea, fr, oc⟩
  · exact ⟨fun ⟨pf, vf, pd, vd⟩ => ⟨⟨pd, pf⟩, ⟨vd, vf⟩, fun _ h => nomatch h⟩,
      fun ⟨⟨pd, pf⟩, ⟨vd, vf⟩, _⟩ => ⟨pf, vf, pd, vd⟩⟩
  · cases owed <;>
    exact ⟨fun ⟨pf, vf, rs, ra, pd, vd⟩ =>
        ⟨⟨pd, pf⟩, ⟨vd, vf⟩, fun _ h => by cases h; exact ⟨rs, fun _ => ra⟩⟩,
      fun ⟨⟨pd, pf⟩, ⟨vd, vf⟩, st⟩ => ⟨pf, vf, (st _ rfl).1, (st _ rfl).2 rfl, pd, vd⟩⟩
  · exact ⟨fun ⟨pd, vd, pf, vf⟩ => ⟨⟨pd, pf⟩, ⟨vd, vf⟩, fun _ h => nomatch h⟩,
      fun ⟨⟨pd, pf⟩, ⟨vd, vf⟩, _⟩ => ⟨pd, vd, pf, vf⟩⟩
  · cases owed <;>
    exact ⟨fun ⟨pd, vd, rs, pf, vf⟩ =>
        ⟨⟨pd, pf⟩, ⟨vd, vf⟩, fun _ h => by cases h; exact ⟨rs, fun h => nomatch h⟩⟩,
      fun ⟨⟨pd, pf⟩, ⟨vd, vf⟩, st⟩ => ⟨pd, vd, (st _ rfl).1, pf, vf⟩⟩

theorem retd_fw {pr : EProto α} (hfw : pr.fw = true) {b : Bool} {Q : EV α} :
    Retd pr b Q ↔ Q.depth = 0 ∧ Q.fw = b := by
  unfold Retd
  rw [hfw, Bool.not_true, Bool.and_false, Bool.and_true, if_neg Bool.false_ne_true]

theorem retd_eonly {pr : EProto α} (hfw : pr.fw = false) {b : Bool} {Q : EV α} :
    Retd pr b Q ↔ Q.depth = (if b then pr.A else 0) ∧ Q.fw = false := by
  unfold Retd
  rw [hfw, Bool.not_false, Bool.and_true, Bool.and_false]

theorem retd_false {pr : EProto α} {Q : EV α} : Retd pr false Q ↔ Q.depth = 0 ∧ Q.fw = false :=
  Iff.rfl

theorem Retd.inj {pr : EProto α} {b b' : Bool} {Q : EV α} (h : Retd pr b Q) (h' : Retd pr b' Q) :
    b = b' := by
  cases hf : pr.fw
  · have e := ((retd_eonly hf).mp h).1.symm.trans ((retd_eonly hf).mp h').1
    cases b <;> cases b'
    · rfl
    · exact absurd e pr.hA.ne
    · exact absurd e.symm pr.hA.ne
    · rfl
  · exact ((retd_fw hf).mp h).2.symm.trans ((retd_fw hf).mp h').2

theorem Retd.nonneg {pr : EProto α} {b : Bool} {Q : EV α} (h : Retd pr b Q) : 0 ≤ Q.depth := by
  rw [h.1]
  split
  · exact pr.hA.le
  · exact le_refl _

theorem Retd.congr {pr : EProto α} {b : Bool} {Q Q' : EV α} (h : Retd pr b Q)
    (h1 : Q'.depth = Q.depth) (h2 : Q'.fw = Q.fw) : Retd pr b Q' := ⟨h1.trans h.1, h2.trans h.2⟩

theorem Retd.le_max {pr : EProto α} {b : Bool} {Q V : EV α} (h : Retd pr b Q) (h' : Retd pr b V)
    (d : α) : Q.depth ≤ max d V.depth := (h.1.trans h'.1.symm).le.trans (le_max_right _ _)

theorem Retd.goto_false {pr : EProto α} {Q : EV α} {c : α} (hf : Q.fw = false)
    (hd : Q.depth ≤ c - cur Q.e) : Retd pr false (Q.goto c) :=
  retd_false.mpr ⟨by rw [EV.goto_depth, max_eq_right (sub_nonpos.mpr hd)], hf⟩

theorem Retd.goto_true {pr : EProto α} {Q : EV α} {c : α} (hQ : Retd pr false Q) (hfw : pr.fw = false)
    (hc : cur Q.e - c = pr.A) : Retd pr true (Q.goto c) := by
  obtain ⟨h0, hf⟩ := retd_false.mp hQ
  refine (retd_eonly hfw).mpr ⟨?_, hf⟩
  rw [EV.goto_depth, h0, zero_sub, neg_sub, hc, max_eq_left pr.hA.le]
  rfl

theorem RetrInv.nonneg {pr : EProto α} {lr : Option (Retraction α)} {P V : EV α}
    (h : RetrInv pr lr P V) : 0 ≤ P.depth ∧ 0 ≤ V.depth ∧ V.depth ≤ P.depth := by
  obtain ⟨hP, hV, _⟩ := retrInv_iff.mp h
  refine ⟨hP.nonneg, hV.nonneg, ?_⟩
  rw [hP.1, hV.1]
  -- the file is retracted only if a retraction is recorded
  rcases lr with _ | r
  · exact le_refl _
  · rw [Option.isSome_some, Bool.true_and]
    split
    · rw [if_pos (Bool.and_eq_true_iff.mp ‹_›).2]
    · split
      · exact pr.hA.le
      · exact le_refl _

theorem RetrInv.congr {pr : EProto α} {lr : Option (Retraction α)} {P V P' V' : EV α}
    (h : RetrInv pr lr P V) (h1 : P'.depth = P.depth) (h2 : P'.fw = P.fw) (h3 : V'.depth = V.depth)
    (h4 : V'.fw = V.fw) : RetrInv pr lr P' V' := by
  unfold RetrInv at h ⊢
  rw [h1, h2, h3, h4]; exact h

/-- `recoverIfNeeded_inside` for a recovery command, the file unretracted -/
theorem RetrInv.inside {pr : EProto α} {lr : Option (Retraction α)} {P V V' : EV α}
    (h : RetrInv pr lr P V) (hV' : Retd pr false V') :
    RetrInv pr (lr.map fun l =>
      { l with allowCombine := false, recoverExcluded := true || l.recoverExcluded }) P V' := by
  obtain ⟨hP, -, hst⟩ := retrInv_iff.mp h
  refine retrInv_iff.mpr ?_
  rcases lr with _ | l
  · exact ⟨hP, hV', fun _ h => nomatch h⟩
  · exact ⟨hP, hV', fun _ h => by cases h; exact hst l rfl⟩

theorem Styled.of_fw {pr : EProto α} {r : Retraction α} (hfw : pr.fw = true)
    (h : r.firmwareRetract = true) : Styled pr r :=
  ⟨h.trans hfw.symm, fun h' => absurd (hfw.symm.trans h') Bool.noConfusion⟩

/-- a move never retracts; it extrudes only while the file is neither pulled nor flagged -/
def MoveOK (V : EV α) (dE : α) : Prop := 0 ≤ dE ∧ (0 < dE → V.depth = 0 ∧ V.fw = false)

/-- protocol for a command without X/Y/Z word whose E word changes the coordinate by `dE` -/
def NonMoveOK (pr : EProto α) (V : EV α) (dE : α) : Prop :=
  (dE < 0 → pr.fw = false ∧ V.depth = 0 ∧ -dE = pr.A) ∧
  (0 < dE → V.fw = false ∧ (V.depth = 0 ∨ (V.depth = pr.A ∧ dE = pr.A)))

/-- the command acts on every printer as a linear move with E word `ep` -/
def ActsAs (g90e : Bool) (inch : α) (cmd : Cmd α) (ep : Option α) : Prop :=
  ∀ Q : EV α, Q.exec g90e inch (Code.ofString cmd.code) cmd.words = Q.lin ep

/-- how the command itself acts on a printer that sits at the old coordinate -/
def OrigActs (g90e : Bool) (inch : α) (s1 : FState α) (cmd : Cmd α) (c0 : α) : Prop :=
  ∀ Q : EV α, sameFrame Q.e s1.position.e → Q.e.current = some c0 → 0 ≤ Q.depth →
    Q.exec g90e inch (Code.ofString cmd.code) cmd.words = Q.goto (cur s1.position.e)

theorem origActs_of (g90e : Bool) (inch : α) (s s1 : FState α) (cmd : Cmd α) (ep : Option α)
    (ha : ActsAs g90e inch cmd ep) (habs : s.position.e.absoluteMode = true)
    (h1 : s1.position.e = setLog s.position.e ep) :
    OrigActs g90e inch s1 cmd (cur s.position.e) := by
  intro Q hf hc hd
  rw [ha Q, h1]
  rw [h1] at hf
  cases ep with
  | none => rw [EV.lin_none Q hd]; exact (EV.goto_self Q _ hc hd).symm
  | some x => rw [EV.lin_some Q s.position.e x (hf.trans (setLog_frame _ _)) habs]; rfl

structure EInv (pr : EProto α) (s : FState α) (P V : EV α) : Prop where
  /-- the filter tracks the file's extruder axis -/
  track : s.position.e = V.e
  /-- extrusion is absolute.  This is an invariant of the run, not a clause of the protocol: the
  protocol only asks that `G91` leaves the extruder alone (`EDialect`) -/
  abs : s.position.e.absoluteMode = true
  /-- the printer's extruder axis has the offsets, the mode and the unit the filter tracks -/
  frame : sameFrame P.e s.position.e
  /-- outside regions the printer's extruder coordinate is the file's -/
  sync : s.excluding = false → P.e.current = s.position.e.current
  retr : RetrInv pr s.lastRetraction P V

theorem EInv.of_retr {pr : EProto α} {s s' : FState α} {P V P' V' : EV α} (h : EInv pr s P V)
    (he : s'.position.e = s.position.e) (hx : s'.excluding = s.excluding) (hP : P'.e = P.e)
    (hV : V'.e = V.e)
    (hr : RetrInv pr s'.lastRetraction P' V') : EInv pr s' P' V' :=
  ⟨by rw [he, hV]; exact h.track, by rw [he]; exact h.abs, by rw [he, hP]; exact h.frame,
   by rw [hx, he, hP]; exact h.sync, hr⟩

theorem EInv.congr {pr : EProto α} {s s' : FState α} {P V : EV α} (h : EInv pr s P V)
    (he : s'.position.e = s.position.e) (hx : s'.excluding = s.excluding)
    (hr : s'.lastRetraction = s.lastRetraction) : EInv pr s' P V :=
  h.of_retr he hx rfl rfl (hr ▸ h.retr)

/-- nothing reaches the extruder and nothing the invariant looks at changes -/
theorem EInv.virt_retd {pr : EProto α} {s : FState α} {P V : EV α} (h : EInv pr s P V) :
    Retd pr (s.lastRetraction.any fun r => !r.recoverExcluded) V := (retrInv_iff.mp h.retr).2.1

theorem EInv.idle {pr : EProto α} {s : FState α} {P V : EV α} (h : EInv pr s P V) :
    EInv pr s P V ∧ P.depth ≤ max P.depth V.depth := ⟨h, le_max_left _ _⟩

/-- the situation inside `processLinearMoves` after the E word has been applied to the tracked
position (now at `cur s1.position.e`) while both printers are still at the old coordinate `c0` -/
structure Mid (pr : EProto α) (s1 : FState α) (P V : EV α) (c0 : α) : Prop where
  vcur : V.e.current = some c0
  vframe : sameFrame V.e s1.position.e
  abs : s1.position.e.absoluteMode = true
  ok : AxisOk s1.position.e
  frame : sameFrame P.e s1.position.e
  sync : s1.excluding = false → P.e.current = some c0
  retr : RetrInv pr s1.lastRetraction P V

theorem EInv.mid {pr : EProto α} {s s1 : FState α} {P V : EV α} (h : EInv pr s P V)
    (hok : AxisOk s.position.e) (ep : Option α) (h1 : s1.position.e = setLog s.position.e ep)
    (hx : s1.excluding = s.excluding) (hr : s1.lastRetraction = s.lastRetraction) :
    Mid pr s1 P V (cur s.position.e) := by
  have fr := setLog_frame s.position.e ep
  rw [← h1] at fr
  exact ⟨h.track ▸ hok.cur_eq, h.track ▸ fr.symm, fr.2.2.1.trans h.abs, h1 ▸ setLog_AxisOk hok ep,
    h.frame.trans fr.symm, fun he => (h.sync (hx ▸ he)).trans hok.cur_eq, hr ▸ h.retr⟩

theorem Mid.goto_e {pr : EProto α} {s1 : FState α} {P V : EV α} {c0 : α} (m : Mid pr s1 P V c0) :
    (V.goto (cur s1.position.e)).e = s1.position.e :=
  axis_eq_of ((EV.goto_frame V _).trans m.vframe) (by rw [m.ok.cur_eq]; rfl)

/-- outside a region a printer in the frame, at the coordinate and as retracted as the file agrees
with it -/
theorem Mid.agrees {pr : EProto α} {s1 : FState α} {P V Q : EV α} {c0 : α} (m : Mid pr s1 P V c0)
    (hf : sameFrame Q.e P.e) (hc : Q.e.current = some c0) {b : Bool} (hQ : Retd pr b Q)
    (hV : Retd pr b V) : Q.Agrees V :=
  ⟨axis_eq_of (hf.trans (m.frame.trans m.vframe.symm)) (hc.trans m.vcur.symm),
    hQ.1.trans hV.1.symm, hQ.2.trans hV.2.symm⟩

/-- `V'`: the file's extruder after the command, on the axis the filter tracks -/
theorem EInv.of_mid {pr : EProto α} {s1 s2 : FState α} {P V P' V' : EV α} {c0 : α}
    (m : Mid pr s1 P V c0) (hV' : V'.e = s1.position.e) (hpos : s2.position.e = s1.position.e)
    (hPf : sameFrame P'.e P.e)
    (hsync : s2.excluding = false → P'.e.current = some (cur s1.position.e))
    (hretr : RetrInv pr s2.lastRetraction P' V') : EInv pr s2 P' V' :=
  ⟨hpos.trans hV'.symm, hpos ▸ m.abs, hpos ▸ hPf.trans m.frame,
    fun he => by rw [hpos, hsync he, m.ok.cur_eq], hretr⟩

theorem addCommands_ev (g90e : Bool) (inch : α) (r : Retraction α) (dir a : α) (p : Position α)
    (Q : EV α) (hfw : r.firmwareRetract = false) (ha : r.extrusionAmount = some a) (hok : AxisOk p.e)
    (habs : p.e.absoluteMode = true) (hf : sameFrame Q.e p.e) :
    Q.outs g90e inch (T.addCommands r dir p).2 = (Q.jump (cur p.e + a * dir)).goto (cur p.e) := by
  unfold T.addCommands
  simp only [hfw, Bool.false_eq_true, if_false, ha, Option.getD_some, EV.outs, List.foldl_cons,
    List.foldl_nil, EV.out]
  -- the two axes are `e1` and `e2` of `T.addCommands`
  have h1 := EV.setE_n2l Q ({ p.e with current := some (cur p.e + a * dir) } : Axis α) hf hok.2
  have h2 := EV.lin_n2l (Q.jump (cur ({ p.e with current := some (cur p.e + a * dir) } : Axis α)))
    ({ p.e with current := some (cur p.e + a * dir - a * dir) } : Axis α) hf habs hok.2
  rw [h1, h2]
  simp only [cur, Option.getD_some, add_sub_cancel_right]

theorem addCommands_ev_fw (g90e : Bool) (inch : α) (r : Retraction α) (dir : α) (p : Position α)
    (Q : EV α) (hfw : r.firmwareRetract = true) {b : Bool} (hd : decide (dir < 0) = b) :
    Q.outs g90e inch (T.addCommands r dir p).2 = { Q with fw := !b } := by
  rw [addCommands_fw r dir p hfw, hd]
  rfl

theorem enterLines_neutral (g90e : Bool) (inch : α) (cfg : Config) :
    ∀ o ∈ (C06.enterLines cfg : List (Out α)), ENeutral g90e inch o := by
  intro o ho
  obtain ⟨_, _, t, _, rfl⟩ := mem_enterLines ho
  exact fun _ => rfl

/-- what a command with result `r` does to the extruder, `x` telling whether an episode was open and
`V'` being the file's extruder after the command: the invariant holds afterwards; the printer is
retracted no deeper than before unless the file is; unless the command itself is forwarded no
filament is pushed; a command that pushes filament in the file and is handled outside regions is
forwarded behind a prefix after which the printer agrees with the file -/
structure EStep (g90e : Bool) (inch : α) (pr : EProto α) (x : Bool) (P V V' : EV α)
    (cmd : Cmd α) (r : FState α × List (Out α)) : Prop where
  inv : EInv pr r.1 (P.outs g90e inch r.2) V'
  noDeeper : (P.outs g90e inch r.2).depth ≤ max P.depth V'.depth
  noPush : Out.orig cmd ∉ r.2 → (P.outs g90e inch r.2).fil ≤ P.fil
  pre : x = false → r.1.excluding = false → V.fil < V'.fil →
    ∃ pre, r.2 = pre ++ [.orig cmd] ∧ (P.outs g90e inch pre).Agrees V

section Branches
variable {g90e : Bool} {inch : α} {pr : EProto α} {x : Bool} {s1 s2 : FState α} {P V V' : EV α}
  {cmd : Cmd α} {c0 : α}

/-- **Nothing reaches the filament**: the printer is left as it is (outside a region it then has
the file's coordinate already), or its coordinate is re-declared. -/
theorem still_estep {outs : List (Out α)} (m : Mid pr s1 P V c0) (hV'e : V'.e = s1.position.e)
    (he : s2.position.e = s1.position.e)
    (hP : P.outs g90e inch outs = P ∧
        (s2.excluding = false → P.e.current = some (cur s1.position.e)) ∨
      P.outs g90e inch outs = P.jump (cur s1.position.e))
    (hretr : RetrInv pr s2.lastRetraction P V')
    (hno : x = false → s2.excluding = false → ¬ V.fil < V'.fil) :
    EStep g90e inch pr x P V V' cmd (s2, outs) := by
  refine ⟨?_, ?_, fun _ => ?_, fun h1 h2 h3 => absurd h3 (hno h1 h2)⟩ <;>
    rcases hP with ⟨h, hs⟩ | h <;> simp only [h]
  · exact EInv.of_mid m hV'e he (sameFrame.refl _) hs hretr
  · exact EInv.of_mid m hV'e he (EV.jump_frame _ _) (fun _ => rfl) (hretr.congr rfl rfl rfl rfl)
  · exact le_max_left _ _
  · exact le_max_left _ _
  · exact le_refl _
  · exact le_refl _

/-- **The command reaches a printer that agrees with the file** (`hfol`: it then does to the printer
what it does to the file), behind a prefix `pre`; nothing is owed afterwards. -/
theorem forwarded_estep {pre : List (Out α)} (m : Mid pr s1 P V c0) (hV'e : V'.e = s1.position.e)
    (hfol : ∀ Q : EV α, Q.Agrees V → (Q.out g90e inch (.orig cmd)).Agrees V')
    (he : s2.position.e = s1.position.e) (ha : (P.outs g90e inch pre).Agrees V)
    (hretr : RetrInv pr s2.lastRetraction V' V') :
    EStep g90e inch pr x P V V' cmd (s2, pre ++ [.orig cmd]) := by
  have ha' : (P.outs g90e inch (pre ++ [.orig cmd])).Agrees V' := by
    rw [EV.outs_append, EV.outs_single]
    exact hfol _ ha
  refine ⟨?_, ha'.depth.le.trans (le_max_right _ _),
    fun h => absurd (List.mem_append_right _ (List.mem_singleton.mpr rfl)) h,
    fun _ _ _ => ⟨pre, rfl, ha⟩⟩
  exact EInv.of_mid m hV'e he (ha'.e ▸ hV'e ▸ m.frame.symm) (fun _ => by rw [ha'.e, hV'e, m.ok.cur_eq])
    (hretr.congr ha'.depth ha'.fw rfl rfl)

/-- **A retraction while nothing is recorded** (`recordRetraction_fresh`, `retractBranch_fresh`):
forwarded outside a region, replaced by the synthesised one inside. -/
theorem fresh_estep (r : Retraction α) (m : Mid pr s1 P V c0) (hV'e : V'.e = s1.position.e)
    (hfol : ∀ Q : EV α, Q.Agrees V → (Q.out g90e inch (.orig cmd)).Agrees V')
    (hl : s1.lastRetraction = none) (hV' : Retd pr true V') (hst : Styled pr r)
    (hno : r.recoverExcluded = false) :
    EStep g90e inch pr s1.excluding P V V' cmd ({ s1 with lastRetraction := some r },
      if s1.excluding then (T.addCommands r 1 s1.position).2 else [.orig cmd]) := by
  obtain ⟨hP, hV, -⟩ := retrInv_iff.mp m.retr
  rw [hl] at hP hV
  have hretr : ∀ P', Retd pr true P' → RetrInv pr (some r) P' V' := fun P' h =>
    retrInv_iff.mpr ⟨h, by rw [Option.any_some, hno]; exact hV', fun _ h => by cases h; exact hst⟩
  rcases Bool.eq_false_or_eq_true s1.excluding with hex | hex
  · -- the synthesised retraction: a flag, or the printer is declared `A` ahead of the file's
    -- coordinate and pulled back to it
    obtain ⟨P', e, q1, q2, q3⟩ : ∃ P', P.outs g90e inch (T.addCommands r 1 s1.position).2 = P' ∧
        Retd pr true P' ∧ sameFrame P'.e P.e ∧ P'.fil ≤ P.fil := by
      cases hfw : pr.fw
      · refine ⟨_, addCommands_ev g90e inch r 1 pr.A s1.position P (hst.1.trans hfw) (hst.2 hfw)
          m.ok m.abs m.frame, Retd.goto_true (Q := P.jump _) hP hfw ?_,
          (EV.goto_frame _ _).trans (EV.jump_frame _ _), ?_⟩
        · rw [EV.cur_jump, mul_one, add_sub_cancel_left]
        · show P.fil + (cur s1.position.e - (cur s1.position.e + pr.A * 1)) ≤ P.fil
          rw [mul_one, sub_add_cancel_left]
          exact add_le_of_nonpos_right (neg_nonpos.mpr pr.hA.le)
      · exact ⟨_, addCommands_ev_fw g90e inch r 1 s1.position P (hst.1.trans hfw)
          (decide_eq_false (not_lt.mpr zero_le_one)),
          (retd_fw hfw).mpr ⟨((retd_fw hfw).mp hP).1, rfl⟩, sameFrame.refl _, le_refl _⟩
    rw [if_pos hex]
    exact ⟨e ▸ EInv.of_mid m hV'e rfl q2 (fun h => nomatch hex.symm.trans h) (hretr _ q1),
      e ▸ q1.le_max hV' _, fun _ => e ▸ q3, fun h => nomatch hex.symm.trans h⟩
  · rw [if_neg (Bool.eq_false_iff.mp hex)]
    exact forwarded_estep (pre := []) m hV'e hfol rfl
      (m.agrees (sameFrame.refl _) (m.sync hex) hP hV) (hretr _ hV')

/-- **A retraction while a recovery is owed** (`recordRetraction_owed`, `retractBranch_owed`)
cancels it: the printer is still retracted, nothing reaches the filament. -/
theorem owed_estep {outs : List (Out α)} {l : Retraction α} (m : Mid pr s1 P V c0)
    (hV'e : V'.e = s1.position.e) (hl : s1.lastRetraction = some l) (hV' : Retd pr true V')
    (hP : P.outs g90e inch outs = P ∧
        (s1.excluding = false → P.e.current = some (cur s1.position.e)) ∨
      P.outs g90e inch outs = P.jump (cur s1.position.e))
    (hlt : ¬ V.fil < V'.fil) :
    EStep g90e inch pr s1.excluding P V V' cmd ({ s1 with lastRetraction := some (if !l.firmwareRetract
        then { l with recoverExcluded := false, feedRate := some s1.feedRate }
        else { l with recoverExcluded := false }) }, outs) := by
  obtain ⟨hP', -, hst⟩ := retrInv_iff.mp m.retr
  rw [hl] at hP'
  refine still_estep m hV'e rfl hP (retrInv_iff.mpr ⟨hP', ?_, fun _ h => ?_⟩) fun _ _ => hlt
  · cases l.firmwareRetract <;> exact hV'
  · cases h
    exact ite_both (P := Styled pr) (hst l hl) (hst l hl)

/-- the file not retracted, a record that is present is owed -/
theorem RetrInv.owed {l : Retraction α} (h : RetrInv pr (some l) P V) (hV : Retd pr false V) :
    l.recoverExcluded = true :=
  Bool.not_eq_eq_eq_not.mp (hV.inj (retrInv_iff.mp h).2.1).symm

/-- **E-only retraction** while the file is not retracted: forwarded outside a region, replaced by
`G92 E`/`G1 E` inside; dropped (only the coordinate is re-declared) if the printer is still
retracted because a recovery is owed. -/
theorem retractBranch_estep (r : Retraction α) (m : Mid pr s1 P V c0) (hV'e : V'.e = s1.position.e)
    (hfol : ∀ Q : EV α, Q.Agrees V → (Q.out g90e inch (.orig cmd)).Agrees V')
    (hV : Retd pr false V) (hV' : Retd pr true V') (hst : Styled pr r)
    (hno : r.recoverExcluded = false) (hc : r.originalCommand = cmd) (hlt : ¬ V.fil < V'.fil) :
    EStep g90e inch pr s1.excluding P V V' cmd (retractBranch s1 r) := by
  rcases hl : s1.lastRetraction with _ | l
  · rw [retractBranch_fresh s1 r m.ok hl, hc]
    exact fresh_estep r m hV'e hfol hl hV' hst hno
  · rw [retractBranch_owed s1 r l hl ((hl ▸ m.retr).owed hV)]
    refine owed_estep m hV'e hl hV' ?_ hlt
    cases s1.excluding
    · exact .inr (EV.setE_n2l P _ m.frame m.ok.2)
    · exact .inl ⟨rfl, nofun⟩

/-- the prefix `recoverPre` recovers what is owed: after it the printer agrees with the file -/
theorem recoverPre_agrees (g90e : Bool) (inch : α) (m : Mid pr s1 P V c0)
    (hex : s1.excluding = false) : (P.outs g90e inch (recoverPre s1 c0)).Agrees V := by
  obtain ⟨hP, hV, hst⟩ := retrInv_iff.mp m.retr
  unfold recoverPre
  rcases hl : s1.lastRetraction with _ | l
  · rw [hl] at hP hV
    exact m.agrees (sameFrame.refl _) (m.sync hex) hP hV
  · rw [hl, Option.any_some] at hV
    rw [hl] at hP
    cases ho : l.recoverExcluded <;> rw [ho] at hV <;>
      simp only [ho, Bool.false_eq_true, if_false, if_true]
    · exact m.agrees (sameFrame.refl _) (m.sync hex) hP hV
    · -- a recovery is owed: the printer is retracted, the file is not
      obtain ⟨hs1, hs2⟩ := hst l hl
      simp only [hs1]
      cases hf : pr.fw
      · -- E-only: pulled by `A`, the printer is pushed by `A`; then the coordinate is restored
        rw [if_neg Bool.false_ne_true, EV.outs_append, EV.outs_single, EV.out,
          addCommands_ev g90e inch l (-1) pr.A s1.position P (hs1.trans hf) (hs2 hf) m.ok m.abs
            m.frame,
          EV.setE_n2lAbs _ _ c0 (((EV.goto_frame _ _).trans (EV.jump_frame _ _)).trans m.frame) m.ok.2]
        refine m.agrees ((EV.jump_frame _ _).trans ((EV.goto_frame _ _).trans (EV.jump_frame _ _)))
          rfl (Retd.congr (Q := (P.jump _).goto _)
            (Retd.goto_false (Q := P.jump _) ((retd_eonly hf).mp hP).2 ?_) rfl rfl) hV
        rw [EV.jump_depth, ((retd_eonly hf).mp hP).1, EV.cur_jump, mul_neg_one,
          sub_add_cancel_left, neg_neg]
        exact le_of_eq (if_pos rfl)
      · rw [if_pos rfl, List.append_nil, addCommands_ev_fw g90e inch l (-1) s1.position P
          (hs1.trans hf) (decide_eq_true neg_one_lt_zero)]
        exact m.agrees (sameFrame.refl _) (m.sync hex)
          (retd_false.mpr ⟨((retd_fw hf).mp hP).1, rfl⟩) hV

/-- **Outside a region** the command is forwarded behind the prefix `recoverPre`, which recovers
what is owed: the printer meets the command where and as the file assumes. -/
theorem recoverBranch_estep (b : Bool) (m : Mid pr s1 P V c0) (hV'e : V'.e = s1.position.e)
    (hfol : ∀ Q : EV α, Q.Agrees V → (Q.out g90e inch (.orig cmd)).Agrees V')
    (hex : s1.excluding = false) (hV' : Retd pr false V') :
    EStep g90e inch pr s1.excluding P V V' cmd (recoverBranch s1 cmd b c0) := by
  rw [recoverBranch_outside s1 cmd b c0 m.ok hex]
  exact forwarded_estep m hV'e hfol rfl (recoverPre_agrees g90e inch m hex)
    (retrInv_iff.mpr ⟨hV', hV', fun _ h => nomatch h⟩)

/-- an extrusion without X/Y/Z word inside a region is dropped; a skipped recovery becomes owed -/
theorem extrudeIn_estep (m : Mid pr s1 P V c0) (hV'e : V'.e = s1.position.e)
    (hex : s1.excluding = true) (hV' : Retd pr false V') :
    EStep g90e inch pr s1.excluding P V V' cmd (T.recoverRetractionIfNeeded s1 cmd true) := by
  rw [recoverIfNeeded_inside s1 cmd true hex]
  exact still_estep m hV'e rfl (.inl ⟨rfl, fun h => nomatch hex.symm.trans h⟩) (m.retr.inside hV')
    fun h => nomatch hex.symm.trans h

theorem OrigActs.follows (horig : OrigActs g90e inch s1 cmd c0) (m : Mid pr s1 P V c0) (Q : EV α)
    (h : Q.Agrees V) : (Q.out g90e inch (.orig cmd)).Agrees (V.goto (cur s1.position.e)) := by
  show (Q.exec g90e inch (Code.ofString cmd.code) cmd.words).Agrees _
  rw [horig Q (h.e ▸ m.vframe) (h.e ▸ m.vcur) (h.depth ▸ m.retr.nonneg.2.1)]
  exact h.goto _

theorem Retd.of_extrusion {dE : α} (m : Mid pr s1 P V c0) (hdE : dE = cur s1.position.e - c0)
    (hpos : 0 < dE) (hVfw : V.fw = false) (hV : V.depth = 0 ∨ (V.depth = pr.A ∧ dE = pr.A)) :
    Retd pr false (V.goto (cur s1.position.e)) := by
  refine Retd.goto_false hVfw ?_
  rw [cur_of_current m.vcur, ← hdE]
  rcases hV with h | ⟨h, h'⟩ <;> rw [h]
  · exact hpos.le
  · exact h'.ge

/-- `recoverBranch_estep` for an extrusion of the protocol, the invariant alone. -/
theorem recoverBranch_inv (g90e : Bool) (inch : α) (pr : EProto α) (s1 : FState α) (P V : EV α)
    (cmd : Cmd α) (b : Bool) (c0 dE : α) (m : Mid pr s1 P V c0) (horig : OrigActs g90e inch s1 cmd c0)
    (hex : s1.excluding = false) (hdE : dE = cur s1.position.e - c0) (hpos : 0 < dE) (hVfw : V.fw = false)
    (hV : V.depth = 0 ∨ (V.depth = pr.A ∧ dE = pr.A)) :
    EInv pr (recoverBranch s1 cmd b c0).1 (P.outs g90e inch (recoverBranch s1 cmd b c0).2)
      (V.goto (cur s1.position.e)) :=
  (recoverBranch_estep b m m.goto_e (horig.follows m) hex
    (Retd.of_extrusion m hdE hpos hVfw hV)).inv

/-- a command that leaves the coordinate where it is: a travel outside a region is forwarded to a
printer on which it does nothing either, even one that still owes a recovery -/
theorem idle_estep (m : Mid pr s1 P V c0) (horig : OrigActs g90e inch s1 cmd c0)
    (h0 : cur s1.position.e = c0) :
    EStep g90e inch pr s1.excluding P V (V.goto (cur s1.position.e)) cmd
      (s1, if s1.excluding then [] else [.orig cmd]) := by
  have hn := m.retr.nonneg
  have hVe := m.goto_e
  rw [show V.goto (cur s1.position.e) = V by rw [h0]; exact EV.goto_self V c0 m.vcur hn.2.1] at hVe ⊢
  have hP : P.outs g90e inch (if s1.excluding then [] else [.orig cmd]) = P := by
    cases hex : s1.excluding
    · exact (horig P m.frame (m.sync hex) hn.1).trans
        (by rw [h0]; exact EV.goto_self P c0 (m.sync hex) hn.1)
    · rfl
  exact still_estep m hVe rfl (.inl ⟨hP, fun hex => by rw [m.sync hex, h0]⟩) m.retr
    fun _ _ => lt_irrefl _

theorem nonMoveBody_estep {dE : α} (m : Mid pr s1 P V c0) (horig : OrigActs g90e inch s1 cmd c0)
    (hdE : dE = cur s1.position.e - c0) (hp : NonMoveOK pr V dE) :
    EStep g90e inch pr s1.excluding P V (V.goto (cur s1.position.e)) cmd (T.nonMoveBody s1 cmd dE c0) := by
  have hV' := fun hpos => Retd.of_extrusion m hdE hpos (hp.2 hpos).1 (hp.2 hpos).2
  have hVc := cur_of_current m.vcur
  refine nonMoveBody_cases s1 cmd dE c0 (fun hneg => ?_) (fun hz => ?_) (fun hpos hex => ?_)
    (fun hpos hex => ?_)
  · obtain ⟨hfw, hV0, hlen⟩ := hp.1 hneg
    have hV : Retd pr false V := (retd_eonly hfw).mpr ⟨hV0, ((retd_eonly hfw).mp (retrInv_iff.mp m.retr).2.1).2⟩
    exact retractBranch_estep _ m m.goto_e (horig.follows m) hV
      (hV.goto_true hfw (by rw [hVc, ← hlen, hdE]; ring)) ⟨hfw.symm, fun _ => congrArg some hlen⟩ rfl rfl
      (not_lt.mpr (add_le_of_nonpos_right (by rw [hVc, ← hdE]; exact hneg.le)))
  · exact idle_estep m horig (sub_eq_zero.mp (hz ▸ hdE).symm)
  · exact extrudeIn_estep m m.goto_e hex (hV' hpos)
  · exact recoverBranch_estep true m m.goto_e (horig.follows m) hex (hV' hpos)

/-- **Leaving a region** re-declares the file's extruder coordinate and moves no filament. -/
theorem exit_ev (g90e : Bool) (inch : α) (cfg : Config) (s : FState α) (P : EV α)
    (hpn : PendingNeutral s) (hex : s.excluding = true) (hf : sameFrame P.e s.position.e)
    (hok : AxisOk s.position.e) (hd : 0 ≤ P.depth) :
    P.outs g90e inch (T.exitExcludedRegion cfg s).2 = P.jump (cur s.position.e) := by
  have hj : 0 ≤ (P.jump (cur s.position.e)).depth := hd
  rw [exit_outputs cfg s hex, EV.outs_append, outs_neutral g90e inch _
    (processPendingCommands_all cfg { s with excluding := false } hpn (fun _ _ _ => rfl)
      (fun _ _ => rfl) (neutral_of_other g90e inch))]
  unfold exitTail
  simp only [EV.outs_append, EV.outs_single, EV.out, EV.setE_n2l P _ hf hok.2]
  split_ifs <;> simp only [EV.outs_nil, EV.outs_single, EV.out, EV.lin_none _ hj]

theorem exit_estep (cfg : Config) (m : Mid pr s1 P V c0) (hV'e : V'.e = s1.position.e)
    (hpn : PendingNeutral s1) (hex : s1.excluding = true)
    (hretr : RetrInv pr s1.lastRetraction P V') :
    EStep g90e inch pr s1.excluding P V V' cmd (T.exitExcludedRegion cfg s1) := by
  have hP := exit_ev g90e inch cfg s1 P hpn hex m.frame m.ok m.retr.nonneg.1
  have e : T.exitExcludedRegion cfg s1 = ({ s1 with excluding := false, pendingCommands := [] },
      (T.exitExcludedRegion cfg s1).2) :=
    Prod.ext ((exitExcludedRegion_fst cfg s1).trans (if_pos hex)) rfl
  rw [e]
  exact still_estep m hV'e rfl (.inr hP) hretr fun h => nomatch hex.symm.trans h

end Branches

/-- **One G0–G3 command of the protocol**, seen from the state its words lead to (`tracked`: the E
word applied, both printers still at the old coordinate); the virtual printer executes the
command. -/
theorem plm_estep (g90e : Bool) (inch : α) (cfg : Config) (pr : EProto α) (s : FState α) (P V : EV α)
    (cmd : Cmd α) (ep fr fz : Option α) (xy : List (Option α × Option α)) (h : AxisOk s.position.e)
    (hinv : EInv pr s P V) (hpn : PendingNeutral s) (ha : ActsAs g90e inch cmd ep)
    (hproto : if T.isMoveOf fz xy then MoveOK V (T.deltaEOf s ep)
      else NonMoveOK pr V (T.deltaEOf s ep)) :
    EStep g90e inch pr s.excluding P V (V.lin ep) cmd
      ((T.processLinearMoves cfg s cmd ep fr fz xy).1,
        fwdOf cmd (T.processLinearMoves cfg s cmd ep fr fz xy).2) := by
  have m : Mid pr (tracked s ep fr fz xy) P V (cur s.position.e) := hinv.mid h ep rfl rfl rfl
  have horig := origActs_of g90e inch s (tracked s ep fr fz xy) cmd ep ha hinv.abs rfl
  have hdE : T.deltaEOf s ep = cur (tracked s ep fr fz xy).position.e - cur s.position.e :=
    deltaEOf_eq s ep
  rw [(ha V).symm.trans (horig V m.vframe m.vcur hinv.retr.nonneg.2.1)]
  have hx : (tracked s ep fr fz xy).excluding = s.excluding := rfl
  -- over a move the file keeps its depth (it travels, or extrudes while not retracted) and flag
  have hretr (hm : T.isMoveOf fz xy = true) :
      RetrInv pr s.lastRetraction P (V.goto (cur (tracked s ep fr fz xy).position.e)) := by
    rw [if_pos hm] at hproto
    exact m.retr.congr rfl rfl (EV.goto_same_depth V _ _ m.vcur m.retr.nonneg.2.1 (hdE ▸ hproto.1)
      fun h => (hproto.2 (hdE ▸ h)).1) rfl
  obtain ⟨r, e, hr⟩ := plm_cases
    (motive := EStep g90e inch pr s.excluding P V
      (V.goto (cur (tracked s ep fr fz xy).position.e)) cmd)
    cfg s cmd ep fr fz xy
    (fun hm => nonMoveBody_estep m horig hdE ((if_neg (Bool.eq_false_iff.mp hm)).mp hproto))
    (fun hm _ => by
      -- into (or inside) a region: at most the enter script is sent
      rw [if_pos hm] at hproto
      simp only [processExcludedMove_nonneg cfg _ cmd _ hproto.1]
      cases hex : s.excluding <;>
        simp only [hx, hex, Bool.false_eq_true, if_false, if_true, Bool.not_false, Bool.not_true,
          Bool.and_true, Bool.and_false]
      · exact still_estep m m.goto_e rfl
          (.inl ⟨outs_neutral g90e inch _ (enterLines_neutral g90e inch cfg) P, nofun⟩) (hretr hm)
          nofun
      · exact still_estep m m.goto_e rfl (.inl ⟨rfl, fun h => nomatch hex.symm.trans h⟩) (hretr hm)
          nofun)
    (fun hm _ hex => exit_estep cfg m m.goto_e hpn (hx.trans hex) (hretr hm))
    (fun hm _ hex hd => by
      rw [if_pos hm] at hproto
      have hpos : 0 < T.deltaEOf s ep := lt_of_le_of_ne hproto.1 hd.symm
      exact recoverBranch_estep false m m.goto_e (horig.follows m) (hx.trans hex)
        (Retd.of_extrusion m hdE hpos (hproto.2 hpos).2 (Or.inl (hproto.2 hpos).1)))
    (fun _ _ hex hd => by
      have := idle_estep m horig (sub_eq_zero.mp (hd ▸ hdE).symm)
      rw [hx, hex] at this
      exact hex ▸ this)
  rw [e, fwdOf_toResult, toResult_fst]
  exact hr

theorem EStep.einv {g90e : Bool} {inch : α} {pr : EProto α} {x : Bool} {P V V' : EV α}
    {cmd : Cmd α} {r : FState α × List (Out α)} (k : EStep g90e inch pr x P V V' cmd r) :
    EInv pr r.1 (P.outs g90e inch r.2) V' ∧ (P.outs g90e inch r.2).depth ≤ max P.depth V'.depth :=
  ⟨k.inv, k.noDeeper⟩

/-- `plm_estep` as the invariant and the bound on the depth -/
theorem plm_einv (g90e : Bool) (inch : α) (cfg : Config) (pr : EProto α) (s : FState α) (P V : EV α)
    (cmd : Cmd α) (ep fr fz : Option α) (xy : List (Option α × Option α)) (h : AxisOk s.position.e)
    (hinv : EInv pr s P V) (hpn : PendingNeutral s) (ha : ActsAs g90e inch cmd ep)
    (hproto : if T.isMoveOf fz xy then MoveOK V (T.deltaEOf s ep)
      else NonMoveOK pr V (T.deltaEOf s ep)) :
    EInv pr (T.processLinearMoves cfg s cmd ep fr fz xy).1
      (P.outs g90e inch (fwdOf cmd (T.processLinearMoves cfg s cmd ep fr fz xy).2)) (V.lin ep) ∧
    (P.outs g90e inch (fwdOf cmd (T.processLinearMoves cfg s cmd ep fr fz xy).2)).depth ≤
      max P.depth (V.lin ep).depth :=
  (plm_estep g90e inch cfg pr s P V cmd ep fr fz xy h hinv hpn ha hproto).einv

end ERP
