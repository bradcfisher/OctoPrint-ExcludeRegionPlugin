import Mathlib.Data.List.Induction
import ERP.Lemmas.EInv
import ERP.Spec.Sys
/-! # The extruder invariant is preserved by every event of the protocol

The protocol is defined here: `EDialect` (`MoveOK`, `NonMoveOK`, `EProto` and the structure `EStep`
are in `Lemmas/EInv`), `EDialectEv` for events.  `g92Step_e`, `g92_fold_e`, `m206_fold_e`: the
filter's `G92`/`M206` on the E axis.  `gcode_einv` goes through the commands,
`sys_step_einv_depth` through the events of the observed system. -/
namespace ERP
open T

-- one instance list for the file
set_option linter.unusedSectionVars false
variable {α : Type} [Field α] [LinearOrder α] [IsStrictOrderedRing α] [MathOps α] [MathSpec α]

theorem g92Step_e (p : Position α) (k : Char) (v : Option α) :
    (T.g92Step p (k, v)).e = if k == 'E' then setLog p.e v else p.e := by
  cases v with
  | none => exact (ite_self _).symm
  | some x =>
    simp only [T.g92Step]
    split_ifs <;> rfl

theorem g92_fold_e (w : List (Char × Option α)) (p : Position α) (hp : p.e.absoluteMode = true) :
    (w.foldl T.g92Step p).e = setLog p.e (lastValue w 'E') := by
  induction w using List.reverseRecOn with
  | nil => rfl
  | append_singleton w kv ih =>
    obtain ⟨k, v⟩ := kv
    rw [List.foldl_append, lastValue_snoc]
    show (T.g92Step (w.foldl T.g92Step p) (k, v)).e = _
    rw [g92Step_e, ih]
    split
    · cases v with
      | none => rfl
      | some x => exact setLog_setLog_abs p.e _ x hp
    · rfl

theorem m206_fold_e (w : List (Char × Option α)) (p : Position α) :
    (w.foldl T.m206Step p).e = p.e := by
  induction w generalizing p with
  | nil => rfl
  | cons kv rest ih =>
    rw [List.foldl_cons, ih]
    obtain ⟨k, _ | v⟩ := kv
    · rfl
    · simp only [T.m206Step]
      split_ifs <;> rfl

/-- **Protocol** of a program, one command at a time, relative to the file's (virtual) extruder
(`dE` is read off the filter's axis, the file's by `EInv.track`): moves never retract and extrude
only while the file is not retracted; retractions are E-only of length `A` from the unretracted
state and are recovered by the same length (style `fw = false`),
or they are `G10`/`G11` (style `fw = true`), never mixed; arcs in I/J form; `G91` does not switch
the extruder to relative mode.  That extrusion is absolute to begin with is not a clause: it is
part of the invariant (`EInv.abs`), true of the start state, and `M82`/`M83` are not interpreted
by filter or reference printer. -/
def EDialect (pr : EProto α) (cfg : Config) (s : FState α) (V : EV α) (g : String) (c : Cmd α) : Prop :=
  c.code = g ∧
  match Code.ofString g with
  | .G0 | .G1 =>
    if T.isMoveOf (lastValue c.words 'Z') [(lastValue c.words 'X', lastValue c.words 'Y')]
    then MoveOK V (T.deltaEOf s (lastValue c.words 'E'))
    else NonMoveOK pr V (T.deltaEOf s (lastValue c.words 'E'))
  | .G2 | .G3 => lastValue c.words 'R' = none ∧ MoveOK V (T.deltaEOf s (lastValue c.words 'E'))
  | .G10 => (hasLetter c.words 'P' || hasLetter c.words 'L') = true ∨ (pr.fw = true ∧ V.fw = false)
  | .G11 => pr.fw = true
  | .G91 => cfg.g90InfluencesExtruder = false
  | _ => True

/-- a forwarded command that only touches the E axis, the same way (`a ↦ f a`) in the filter and in
a printer: the invariant goes along, nothing is pushed or pulled -/
theorem EInv.map_axis {pr : EProto α} {s s' : FState α} {P V : EV α} {g90e : Bool} {inch : α}
    {c : Cmd α} {code : Code} (f : Axis α → Axis α) (hinv : EInv pr s P V)
    (hcc : Code.ofString c.code = code)
    (he : s'.position.e = f s.position.e) (hx : s'.excluding = s.excluding)
    (hr : s'.lastRetraction = s.lastRetraction)
    (hact : ∀ Q : EV α, Q.exec g90e inch code c.words = { Q with e := f Q.e })
    (habs : (f s.position.e).absoluteMode = true) (hfr : sameFrame (f P.e) (f s.position.e))
    (hsy : s.excluding = false → (f P.e).current = (f s.position.e).current) :
    EStep g90e inch pr s.excluding P V (V.exec g90e inch code c.words) c (s', [.orig c]) := by
  have hP : P.outs g90e inch [.orig c] = { P with e := f P.e } := by
    rw [EV.outs_single]
    simp only [EV.out, hcc, hact]
  rw [hact]
  refine ⟨?_, ?_, fun h => absurd (List.mem_singleton.mpr rfl) h, fun _ _ h => absurd h (lt_irrefl _)⟩ <;>
    simp only [hP]
  · exact { track := he.trans (congrArg f hinv.track), abs := he ▸ habs, frame := he ▸ hfr,
            sync := fun hex => he ▸ hsy (hx ▸ hex), retr := hr ▸ hinv.retr.congr rfl rfl rfl rfl }
  · exact le_max_left _ _

theorem EInv.keep_axis {pr : EProto α} {s s' : FState α} {P V : EV α} {g90e : Bool} {inch : α}
    {c : Cmd α} {code : Code} (hinv : EInv pr s P V) (hcc : Code.ofString c.code = code)
    (he : s'.position.e = s.position.e) (hx : s'.excluding = s.excluding)
    (hr : s'.lastRetraction = s.lastRetraction)
    (hact : ∀ Q : EV α, Q.exec g90e inch code c.words = Q) :
    EStep g90e inch pr s.excluding P V (V.exec g90e inch code c.words) c (s', [.orig c]) :=
  EInv.map_axis id hinv hcc he hx hr hact hinv.abs hinv.frame hinv.sync

/-- `G10` (without `P`/`L` word) is the retraction of the firmware style -/
theorem g10_estep (g90e : Bool) (inch : α) (pr : EProto α) (s : FState α) (P V : EV α) (cmd : Cmd α)
    (hinv : EInv pr s P V) (hok : AxisOk s.position.e) (hc : Code.ofString cmd.code = .G10)
    (hpl : (hasLetter cmd.words 'P' || hasLetter cmd.words 'L') = false)
    (hfw : pr.fw = true) (hV : V.fw = false) (r : Retraction α) (r1 : r.firmwareRetract = true)
    (r2 : r.originalCommand = cmd) (r3 : r.recoverExcluded = false) :
    EStep g90e inch pr s.excluding P V { V with fw := true } cmd (T.recordRetraction s r) := by
  have m : Mid pr s P V (cur s.position.e) := hinv.mid hok none rfl rfl rfl
  have hV0 := ((retd_fw hfw).mp hinv.virt_retd).1
  have hV' : Retd pr true { V with fw := true } := (retd_fw hfw).mpr ⟨hV0, rfl⟩
  rcases hl : s.lastRetraction with _ | l
  · rw [recordRetraction_fresh s r hok hl, r2]
    refine fresh_estep r m hinv.track.symm (fun Q h => ?_) hl hV' (.of_fw hfw r1) r3
    simp only [EV.out, hc, EV.exec, hpl, Bool.false_eq_true, if_false]
    exact ⟨h.e, h.depth, rfl⟩
  · rw [recordRetraction_owed s r l hl ((hl ▸ hinv.retr).owed (retd_false.mpr ⟨hV0, hV⟩))]
    exact owed_estep (outs := []) m hinv.track.symm hl hV' (.inl ⟨rfl, m.sync⟩) (lt_irrefl _)

/-- `G11` is the recovery of the firmware style -/
theorem g11_estep (g90e : Bool) (inch : α) (pr : EProto α) (s : FState α) (P V : EV α) (cmd : Cmd α)
    (hinv : EInv pr s P V) (hok : AxisOk s.position.e) (hc : Code.ofString cmd.code = .G11)
    (hfw : pr.fw = true) :
    EStep g90e inch pr s.excluding P V { V with fw := false } cmd
      (T.recoverRetractionIfNeeded s cmd true) := by
  have m : Mid pr s P V (cur s.position.e) := hinv.mid hok none rfl rfl rfl
  have hV' : Retd pr false { V with fw := false } :=
    retd_false.mpr ⟨((retd_fw hfw).mp hinv.virt_retd).1, rfl⟩
  rcases Bool.eq_false_or_eq_true s.excluding with hex | hex
  · exact extrudeIn_estep m hinv.track.symm hex hV'
  · -- a firmware recovery needs no `G92 E`
    rw [← recoverBranch_eq_recoverIfNeeded s cmd true (cur s.position.e) fun l hl =>
      .inr (((retrInv_iff.mp hinv.retr).2.2 l hl).1.trans hfw)]
    refine recoverBranch_estep true m hinv.track.symm (fun Q h => ?_) hex hV'
    simp only [EV.out, hc, EV.exec]
    exact ⟨h.e, h.depth, rfl⟩

/-- **Every G-code command of the protocol** preserves the extruder invariant and retracts the
printer no deeper than it was unless the file is; if it is not forwarded itself nothing is pushed;
if it pushes filament in the file and is handled outside regions, it is forwarded last and the
printer meets it in agreement with the file. -/
theorem gcode_estep (cfg : Config) (inch : α) (pr : EProto α) (s : FState α) (P V : EV α) (g : String)
    (c : Cmd α) (h : AxisOk s.position.e) (hinv : EInv pr s P V) (hpn : PendingNeutral s)
    (hd : EDialect pr cfg s V g c) :
    EStep cfg.g90InfluencesExtruder inch pr s.excluding P V
      (V.exec cfg.g90InfluencesExtruder inch (Code.ofString g) c.words) c
      ((T.handleGcode cfg inch s g c).1, fwdOf c (T.handleGcode cfg inch s g c).2) := by
  obtain ⟨hcode, hd⟩ := hd
  unfold T.handleGcode
  generalize hcg : Code.ofString g = code at hd
  have hcc : Code.ofString c.code = code := by rw [hcode]; exact hcg
  have simple := fun s' f =>
    EInv.map_axis (s' := s') (g90e := cfg.g90InfluencesExtruder) (inch := inch) (c := c) f hinv hcc
  -- a command that is skipped by filter and printer alike
  have skip : (∀ Q : EV α, Q.exec cfg.g90InfluencesExtruder inch code c.words = Q) →
      EStep cfg.g90InfluencesExtruder inch pr s.excluding P V
        (V.exec cfg.g90InfluencesExtruder inch code c.words) c (s, fwdOf c .none) :=
    hinv.keep_axis hcc rfl rfl rfl
  cases code with
  | G0 | G1 =>
    simp only [T.handleG0, EV.exec]
    exact plm_estep _ inch cfg pr s P V c _ _ _ _ h hinv hpn (fun Q => by simp only [hcc, EV.exec]) hd
  | G2 | G3 =>
    obtain ⟨hr, hm⟩ := hd
    -- in I/J form filter and printer test the same centre offset
    simp only [handleG2_eq, arcRuns, arcCentre_ij _ _ _ hr]
    split
    · rename_i hij
      simp only [EV.exec, hij, if_true]
      refine plm_estep _ inch cfg pr s P V c _ _ _ _ h hinv hpn
        (fun Q => by simp only [hcc, EV.exec, hij, if_true]) ?_
      rw [T.isMoveOf, Option.isSome_some, Bool.true_or, if_pos rfl]
      exact hm
    · rename_i hij
      exact skip fun Q => by simp only [EV.exec, hij, Bool.false_eq_true, if_false]
  | G10 =>
    simp only [T.handleG10]
    cases hpl : (hasLetter c.words 'P' || hasLetter c.words 'L')
    · rcases hd with hd | ⟨hfw, hV⟩
      · exact Bool.noConfusion (hpl.symm.trans hd)
      · simp only [Bool.false_eq_true, if_false, fwdOf_toResult, toResult_fst, EV.exec, hpl]
        exact g10_estep _ inch pr s P V c hinv h hcc hpl hfw hV _ rfl rfl rfl
    · simp only [if_true]
      exact skip fun Q => by simp only [EV.exec, hpl, if_true]
  | G11 =>
    simp only [T.handleG11, EV.exec, fwdOf_toResult, toResult_fst]
    exact g11_estep _ inch pr s P V c hinv h hcc hd
  | G20 | G21 =>
    exact simple _ (fun a => a.setUnitMultiplier _) rfl rfl rfl (fun Q => rfl) hinv.abs
      (hinv.frame.setUnitMultiplier _) hinv.sync
  | G28 =>
    rw [handleG28_eq]
    exact hinv.keep_axis hcc rfl rfl rfl (fun Q => rfl)
  | G90 =>
    have he : (FState.setAbsoluteMode cfg s true).position.e = _ :=
      congrArg (·.position.e) (setAbsoluteMode_eq cfg s true)
    rcases Bool.eq_false_or_eq_true cfg.g90InfluencesExtruder with hg | hg <;> rw [hg] at he
    · exact simple _ (fun a => a.setAbsoluteMode true) he rfl rfl
        (fun Q => by simp only [EV.exec, hg, if_true]) rfl
        (hinv.frame.setAbsoluteMode true) hinv.sync
    · exact hinv.keep_axis hcc he rfl rfl
        (fun Q => by simp only [EV.exec, hg, Bool.false_eq_true, if_false])
  | G91 =>
    have hg : cfg.g90InfluencesExtruder = false := hd
    have he : (FState.setAbsoluteMode cfg s false).position.e = _ :=
      congrArg (·.position.e) (setAbsoluteMode_eq cfg s false)
    rw [hg] at he
    exact hinv.keep_axis hcc he rfl rfl
      (fun Q => by simp only [EV.exec, hg, Bool.false_eq_true, if_false])
  | G92 =>
    have hfold := g92_fold_e c.words s.position hinv.abs
    cases hE : lastValue c.words 'E' with
    | none =>
      rw [hE] at hfold
      exact hinv.keep_axis hcc hfold rfl rfl (fun Q => by simp only [EV.exec, hE])
    | some x =>
      rw [hE] at hfold
      refine simple _
        (fun a => { a with current := some (x * a.unitMultiplier + (a.offset + a.homeOffset)) })
        ?_ rfl rfl (fun Q => by simp only [EV.exec, hE, EV.setE]) hinv.abs hinv.frame ?_
      · rw [hfold]
        simp only [setLog, l2n, hinv.abs, if_true]
      · obtain ⟨f1, f2, -, f4⟩ := hinv.frame
        intro _
        simp only [f1, f2, f4]
  | M206 => exact hinv.keep_axis hcc (m206_fold_e c.words s.position) rfl rfl (fun Q => rfl)
  | other n =>
    rw [processExtendedGcode_frame cfg s c g]
    rcases processExtendedGcode_cases cfg s c g with e4 | ⟨hex, m, e4⟩ <;> rw [e4]
    · exact hinv.keep_axis hcc rfl rfl rfl (fun Q => rfl)
    · -- deferred inside a region: nothing is sent
      have m' : Mid pr s P V (cur s.position.e) := hinv.mid h none rfl rfl rfl
      exact still_estep m' hinv.track.symm rfl (.inl ⟨rfl, fun h => nomatch hex.symm.trans h⟩)
        hinv.retr fun h => nomatch hex.symm.trans h

/-- `gcode_estep` as the invariant and the bound on the depth -/
theorem gcode_einv (cfg : Config) (inch : α) (pr : EProto α) (s : FState α) (P V : EV α) (g : String)
    (c : Cmd α) (h : AxisOk s.position.e) (hinv : EInv pr s P V) (hpn : PendingNeutral s)
    (hd : EDialect pr cfg s V g c) :
    EInv pr (T.handleGcode cfg inch s g c).1
      (P.outs cfg.g90InfluencesExtruder inch (fwdOf c (T.handleGcode cfg inch s g c).2))
      (V.exec cfg.g90InfluencesExtruder inch (Code.ofString g) c.words) ∧
    (P.outs cfg.g90InfluencesExtruder inch (fwdOf c (T.handleGcode cfg inch s g c).2)).depth ≤
      max P.depth (V.exec cfg.g90InfluencesExtruder inch (Code.ofString g) c.words).depth :=
  (gcode_estep cfg inch pr s P V g c h hinv hpn hd).einv

/-- switching exclusion off inside a region ends the episode like a move out of the region -/
theorem disable_einv (g90e : Bool) (inch : α) (cfg : Config) (pr : EProto α) (s : FState α) (P V : EV α)
    (h : AxisOk s.position.e) (hinv : EInv pr s P V) (hpn : PendingNeutral s) :
    EInv pr (T.disableExclusion cfg s).1 (P.outs g90e inch (T.disableExclusion cfg s).2) V ∧
    PendingNeutral (T.disableExclusion cfg s).1 ∧
    (P.outs g90e inch (T.disableExclusion cfg s).2).depth = P.depth := by
  have hn := hinv.retr.nonneg
  rw [disableExclusion_eq]
  split
  · split
    · rename_i hex
      have hex' : s.excluding = true := hex
      have hpn' : PendingNeutral ({ s with exclusionEnabled := false } : FState α) := hpn
      rw [exit_ev g90e inch cfg _ P hpn' hex hinv.frame h hn.1, exitExcludedRegion_fst]
      simp only [hex', if_true]
      exact ⟨{ track := hinv.track, abs := hinv.abs, sync := fun _ => h.cur_eq.symm,
               frame := (EV.jump_frame _ _).trans hinv.frame,
               retr := hinv.retr.congr rfl rfl rfl rfl }, nofun, rfl⟩
    · exact ⟨hinv.congr rfl rfl rfl, hpn, rfl⟩
  · exact ⟨hinv, hpn, rfl⟩

theorem at_einv (g90e : Bool) (inch : α) (cfg : Config) (pr : EProto α) (s : FState α) (P V : EV α)
    (streaming : Bool) (cmd : String) (ps : Text) (h : AxisOk s.position.e)
    (hinv : EInv pr s P V) (hpn : PendingNeutral s) :
    EInv pr (T.handleAtCommand cfg s streaming cmd ps).1
      (P.outs g90e inch (T.handleAtCommand cfg s streaming cmd ps).2.2) V ∧
    (P.outs g90e inch (T.handleAtCommand cfg s streaming cmd ps).2.2).depth = P.depth := by
  refine (handleAtCommand_induction (motive := fun s' sent => AxisOk s'.position.e ∧ PendingNeutral s' ∧
    EInv pr s' (P.outs g90e inch sent) V ∧ (P.outs g90e inch sent).depth = P.depth)
    cfg s streaming cmd ps ⟨h, hpn, hinv, rfl⟩
    (fun _ _ ⟨hw, hn, hi, hd⟩ => ⟨hw, hn, hi.congr rfl rfl rfl, hd⟩)
    fun s' sent ⟨hw, hn, hi, hd⟩ => ?_).2.2
  obtain ⟨k1, k2, k3⟩ := disable_einv g90e inch cfg pr s' _ V hw hi hn
  rw [← EV.outs_append] at k1 k3
  exact ⟨hi.track.trans k1.track.symm ▸ hw, k2, k1, k3.trans hd⟩

/-- events other than G-code commands are unconstrained -/
def EDialectEv (pr : EProto α) (cfg : Config) (s : FState α) (V : EV α) : Ev α → Prop
  | .gcode g c => EDialect pr cfg s V g c
  | _ => True

/-- **Every event of the protocol preserves the extruder invariant** of the observed system, and
retracts the printer no deeper than it was unless the file is. -/
theorem sys_step_einv_depth (cfg : Config) (inch : α) (pr : EProto α) (y : Sys α) (e : Ev α) (h : WF y.s)
    (hpn : PendingNeutral y.s) (hinv : EInv pr y.s y.phys.ev y.virt.ev)
    (hd : EDialectEv pr cfg y.s y.virt.ev e) :
    EInv pr (y.step cfg inch e).s (y.step cfg inch e).phys.ev (y.step cfg inch e).virt.ev ∧
    (y.step cfg inch e).phys.depth ≤ max y.phys.depth (y.step cfg inch e).virt.depth := by
  cases e with
  | gcode g c =>
    simp only [Sys.step, stepT, ← ev_depth, ev_execOuts, ev_exec, forwarded_gcode]
    exact gcode_einv cfg inch pr y.s _ _ g c h.pos.e hinv hpn hd
  | atCmd st cmd ps =>
    simp only [Sys.step, stepT, ← ev_depth, ev_execOuts, Emit.forwarded]
    obtain ⟨k1, k2⟩ := at_einv cfg.g90InfluencesExtruder inch cfg pr y.s _ _ st cmd ps h.pos.e hinv hpn
    exact ⟨k1, k2.le.trans (le_max_left _ _)⟩
  | addRegion r =>
    simp only [Sys.step, stepT]
    cases hr : y.s.addRegion r with
    | error _ => exact hinv.idle
    | ok s' => rw [addRegion_eq hr]; exact ⟨hinv.congr rfl rfl rfl, hinv.idle.2⟩

/-- `sys_step_einv_depth`, the invariant alone. -/
theorem sys_step_einv (cfg : Config) (inch : α) (pr : EProto α) (y : Sys α) (e : Ev α) (h : WF y.s)
    (hpn : PendingNeutral y.s) (hinv : EInv pr y.s y.phys.ev y.virt.ev)
    (hd : EDialectEv pr cfg y.s y.virt.ev e) :
    EInv pr (y.step cfg inch e).s (y.step cfg inch e).phys.ev (y.step cfg inch e).virt.ev :=
  (sys_step_einv_depth cfg inch pr y e h hpn hinv hd).1

end ERP
