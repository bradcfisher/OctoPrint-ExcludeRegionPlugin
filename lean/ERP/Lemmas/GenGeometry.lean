import ERP.Gen.Geometry
import ERP.Model.Region
/-! # The region geometry of the model *is* the source's

`Gen/Geometry.lean` holds the Python expressions of `RectangularRegion.py` / `CircularRegion.py`
(`containsPoint`, the `isinstance` branches of `containsRegion`, the corner ordering of the
constructor); `Model/Region.lean` — about which C17, C12 and C01 are proved — computes exactly
those, so a changed operator or operand in the source breaks this module.  `gen_mkRect` is not
`rfl`: a tuple pattern bound under an `if` does not reduce before the condition is known.  No proof
rewrites with these theorems: they are obligations of their own, reached by every property module
except C18's through `GenTies`. -/
namespace ERP
set_option linter.unusedSectionVars false
variable {α : Type} [Add α] [Sub α] [LT α] [LE α] [DecidableLT α] [DecidableLE α] [MathOps α]

theorem gen_rect_containsPoint (i : String) (x1 y1 x2 y2 x y : α) :
    (Region.rect i x1 y1 x2 y2).containsPoint x y = Gen.rectContainsPoint x1 y1 x2 y2 x y := rfl

theorem gen_circle_containsPoint (i : String) (cx cy r x y : α) :
    (Region.circle i cx cy r).containsPoint x y = Gen.circleContainsPoint cx cy r x y := rfl

theorem gen_rect_containsRect (i j : String) (x1 y1 x2 y2 a1 b1 a2 b2 : α) :
    (Region.rect i x1 y1 x2 y2).containsRegion (.rect j a1 b1 a2 b2) =
      Gen.rectContainsRect x1 y1 x2 y2 a1 b1 a2 b2 := rfl

theorem gen_rect_containsCircle (i j : String) (x1 y1 x2 y2 cx cy r : α) :
    (Region.rect i x1 y1 x2 y2).containsRegion (.circle j cx cy r) =
      Gen.rectContainsCircle x1 y1 x2 y2 cx cy r := rfl

theorem gen_circle_containsRect (i j : String) (cx cy r a1 b1 a2 b2 : α) :
    (Region.circle i cx cy r).containsRegion (.rect j a1 b1 a2 b2) =
      Gen.circleContainsRect cx cy r a1 b1 a2 b2 := rfl

theorem gen_circle_containsCircle (i j : String) (cx cy r ox oy orr : α) :
    (Region.circle i cx cy r).containsRegion (.circle j ox oy orr) =
      Gen.circleContainsCircle cx cy r ox oy orr := rfl

theorem gen_mkRect (i : String) (x1 y1 x2 y2 : α) :
    Region.mkRect i x1 y1 x2 y2 =
      .rect i (Gen.rectOrder x1 y1 x2 y2).1 (Gen.rectOrder x1 y1 x2 y2).2.1
        (Gen.rectOrder x1 y1 x2 y2).2.2.1 (Gen.rectOrder x1 y1 x2 y2).2.2.2 := by
  unfold Region.mkRect Gen.rectOrder
  by_cases hx : x2 < x1 <;> by_cases hy : y2 < y1 <;> simp only [hx, hy, if_true, if_false]

end ERP
