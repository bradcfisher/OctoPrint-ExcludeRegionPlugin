import ERP.Lemmas.Moves
import ERP.Lemmas.Spec
import ERP.Spec.Printer
import ERP.Spec.Run
/-! # The reference printer: agreement on X, Y and Z, and what the filter's outputs do to it

The printer's axis move is the filter's `setLog`; executing `Silent` commands leaves X, Y and Z
alone, `Passes` hands the command itself to a printer that stands where it stood. `sameFrame` and
its lemmas also serve the extruder side (`EInv`, `EStep`). -/
namespace ERP
open T Spec

section
variable {α : Type}

/-- two positions agree on the X, Y and Z axes (position, offsets, mode, unit) -/
def XYZeq (p q : Position α) : Prop := p.x = q.x ∧ p.y = q.y ∧ p.z = q.z

theorem XYZeq.refl (p : Position α) : XYZeq p p := ⟨rfl, rfl, rfl⟩

theorem XYZeq.trans {p q r : Position α} (h : XYZeq p q) (h' : XYZeq q r) : XYZeq p r :=
  ⟨h.1.trans h'.1, h.2.1.trans h'.2.1, h.2.2.trans h'.2.2⟩

theorem XYZeq.symm' {p q : Position α} (h : XYZeq p q) : XYZeq q p :=
  ⟨h.1.symm, h.2.1.symm, h.2.2.symm⟩

/-- frame of an axis: everything but the current position -/
def sameFrame (a b : Axis α) : Prop :=
  a.homeOffset = b.homeOffset ∧ a.offset = b.offset ∧ a.absoluteMode = b.absoluteMode ∧
  a.unitMultiplier = b.unitMultiplier

theorem sameFrame.refl (a : Axis α) : sameFrame a a := ⟨rfl, rfl, rfl, rfl⟩

theorem sameFrame.symm {a b : Axis α} (h : sameFrame a b) : sameFrame b a :=
  ⟨h.1.symm, h.2.1.symm, h.2.2.1.symm, h.2.2.2.symm⟩

theorem sameFrame.trans {a b c : Axis α} (h : sameFrame a b) (h' : sameFrame b c) : sameFrame a c :=
  ⟨h.1.trans h'.1, h.2.1.trans h'.2.1, h.2.2.1.trans h'.2.2.1, h.2.2.2.trans h'.2.2.2⟩

theorem sameFrame.setUnitMultiplier {a b : Axis α} (h : sameFrame a b) (u : α) :
    sameFrame (a.setUnitMultiplier u) (b.setUnitMultiplier u) := ⟨h.1, h.2.1, h.2.2.1, rfl⟩

theorem sameFrame.setAbsoluteMode {a b : Axis α} (h : sameFrame a b) (m : Bool) :
    sameFrame (a.setAbsoluteMode m) (b.setAbsoluteMode m) := ⟨h.1, h.2.1, rfl, h.2.2.2⟩

theorem axis_eq_of {a b : Axis α} (hf : sameFrame a b) (hc : a.current = b.current) : a = b := by
  obtain ⟨c1, h1, o1, a1, u1⟩ := a
  obtain ⟨c2, h2, o2, a2, u2⟩ := b
  obtain ⟨f1, f2, f3, f4⟩ := hf
  simp only at f1 f2 f3 f4 hc
  subst f1 f2 f3 f4 hc
  rfl

theorem forwarded_gcode (g : String) (c : Cmd α) (r : Result α) :
    Emit.forwarded (.gcode g c) (.result r) = fwdOf c r := by
  cases r <;> rfl

end

section
variable {α : Type} [Field α]

theorem moveAxis_eq_setLog (a : Axis α) (v : Option α) : moveAxis a v = setLog a v := by
  cases v with
  | none => rfl
  | some v =>
    simp only [moveAxis, setLog, target, l2n, coord]
    split
    · rfl
    · rw [add_comm]; rfl

theorem setLog_frame (a : Axis α) (v : Option α) : sameFrame (setLog a v) a := by
  cases v <;> exact ⟨rfl, rfl, rfl, rfl⟩

theorem loopAxis_frame (a : Axis α) (vs : List (Option α)) : sameFrame (loopAxis a vs) a := by
  induction vs generalizing a with
  | nil => exact ⟨rfl, rfl, rfl, rfl⟩
  | cons v rest ih => exact (ih (setLog a v)).trans (setLog_frame a v)

end

section
variable {α : Type} [Field α] [LinearOrder α]

theorem execOuts_append (g90e : Bool) (inch : α) (p : Printer α) (a b : List (Out α)) :
    p.execOuts g90e inch (a ++ b) = (p.execOuts g90e inch a).execOuts g90e inch b :=
  List.foldl_append ..

theorem execOut_EOnly (g90e : Bool) (inch : α) (p : Printer α) (o : Out α) (h : EOnly o) :
    XYZeq (p.execOut g90e inch o).pos p.pos := by
  cases o with
  | orig c =>
    obtain ⟨n, hn⟩ := h
    simp only [Printer.execOut, hn, Printer.exec]
    exact XYZeq.refl _
  | g0z f z => cases h
  | g0xy f x y => cases h
  | _ => exact ⟨rfl, rfl, rfl⟩

theorem Silent.exec {l : List (Out α)} (h : Silent l) (g90e : Bool) (inch : α) (p : Printer α) :
    XYZeq (p.execOuts g90e inch l).pos p.pos := by
  induction l generalizing p with
  | nil => exact XYZeq.refl _
  | cons o rest ih =>
    exact (ih (fun o' ho' => h o' (List.mem_cons_of_mem _ ho')) _).trans
      (execOut_EOnly g90e inch p o (h o List.mem_cons_self))

theorem Passes.exec {cmd : Cmd α} {l : List (Out α)} (h : Passes cmd l) (g90e : Bool) (inch : α)
    (p : Printer α) : ∃ q : Printer α, XYZeq q.pos p.pos ∧
      p.execOuts g90e inch l = q.execOut g90e inch (.orig cmd) := by
  obtain ⟨pre, rfl, hE⟩ := h
  exact ⟨_, hE.exec g90e inch p, execOuts_append g90e inch p pre _⟩

end

section
variable {α : Type} [Field α] [LinearOrder α] [IsStrictOrderedRing α] [MathOps α] [MathSpec α]

set_option linter.unusedSectionVars false in
theorem execOuts_cons (g90e : Bool) (inch : α) (p : Printer α) (o : Out α) (l : List (Out α)) :
    p.execOuts g90e inch (o :: l) = (p.execOut g90e inch o).execOuts g90e inch l := rfl

set_option linter.unusedSectionVars false in
theorem execOuts_nil (g90e : Bool) (inch : α) (p : Printer α) : p.execOuts g90e inch [] = p := rfl

set_option linter.unusedSectionVars false in
theorem coord_eq_cur (a : Axis α) : coord a = cur a := rfl

set_option linter.unusedSectionVars false in
theorem XYZeq.symm {p q : Position α} (h : XYZeq p q) : XYZeq q p := ⟨h.1.symm, h.2.1.symm, h.2.2.symm⟩

set_option linter.unusedSectionVars false in
theorem exec_congr (g90e : Bool) (inch : α) (p q : Printer α) (code : Code) (w : List (Char × Option α))
    (h : XYZeq p.pos q.pos) : XYZeq (p.exec g90e inch code w).pos (q.exec g90e inch code w).pos := by
  obtain ⟨hx, hy, hz⟩ := h
  -- every branch of `exec` builds the new X, Y and Z axes from the old ones and the words alone
  have lin : ∀ X Y Z E, XYZeq (p.linear X Y Z E).pos (q.linear X Y Z E).pos := fun X Y Z E => by
    simp only [Printer.linear, XYZeq, hx, hy, hz, and_self]
  cases code with
  | G0 => exact lin _ _ _ _
  | G1 => exact lin _ _ _ _
  | G2 => simp only [Printer.exec]; split; exacts [lin _ _ _ _, ⟨hx, hy, hz⟩]
  | G3 => simp only [Printer.exec]; split; exacts [lin _ _ _ _, ⟨hx, hy, hz⟩]
  | G10 => simp only [Printer.exec]; split <;> exact ⟨hx, hy, hz⟩
  | G11 => exact ⟨hx, hy, hz⟩
  | G20 => simp only [Printer.exec, Position.setUnitMultiplier, XYZeq, hx, hy, hz, and_self]
  | G21 => simp only [Printer.exec, Position.setUnitMultiplier, XYZeq, hx, hy, hz, and_self]
  | G28 => simp only [Printer.exec, XYZeq, hx, hy, hz, and_self]
  | G90 =>
    simp only [Printer.exec]
    split <;> simp only [Position.setPositionAbsoluteMode, Position.setExtruderAbsoluteMode, XYZeq,
      hx, hy, hz, and_self]
  | G91 =>
    simp only [Printer.exec]
    split <;> simp only [Position.setPositionAbsoluteMode, Position.setExtruderAbsoluteMode, XYZeq,
      hx, hy, hz, and_self]
  | G92 => simp only [Printer.exec, XYZeq, hx, hy, hz, and_self]
  | M206 => simp only [Printer.exec, XYZeq, hx, hy, hz, and_self]
  | other n => exact ⟨hx, hy, hz⟩

end

end ERP
