import ERP.Lemmas.Regex
import ERP.Gen.Regexes
/-! # `REGEX_PARAMETER_OR_STR` is a maximal-munch scanner

`scan` is a straightforward reading of one token: skip blanks; a letter, blanks, and the longest
number `[+-]? digits* ( . digits+ )?` with at least one digit — or any other single character.
`scan_eq` proves that the backtracking matcher on the regex regenerated from the source returns
exactly this, for every text and offset.  `numEnd`, `SP`, `LET` are also used by the
reference reading `Spec/Reader.lean`, so no Mathlib here. -/
namespace ERP.Rx

abbrev SP : List CC := [.lit (Char.ofNat 32)]
abbrev LET : List CC := [.range (Char.ofNat 65) (Char.ofNat 90), .range (Char.ofNat 97) (Char.ofNat 122)]
abbrev SIGN : List CC := [.lit (Char.ofNat 45), .lit (Char.ofNat 43)]
abbrev DIG : List CC := [.range (Char.ofNat 48) (Char.ofNat 57)]
abbrev DOT : List CC := [.lit (Char.ofNat 46)]

section
variable {ctx : Ctx} {p : Nat}

theorem dot_not_digit (h : passes ctx false DOT p = true) : passes ctx false DIG p = false :=
  passes_lit h false DIG

theorem digit_not_dot (h : passes ctx false DIG p = true) : passes ctx false DOT p = false :=
  passes_not_lit h _ rfl

theorem sign_not_digit_dot (h : passes ctx false SIGN p = true) :
    passes ctx false DIG p = false ∧ passes ctx false DOT p = false := by
  rcases passes_cons h with h | h <;> exact ⟨passes_lit h false DIG, passes_lit h false DOT⟩

theorem space_nonletter (h : passes ctx false SP p = true) :
    passes ctx false LET p = false ∧ passes ctx true LET p = true :=
  ⟨passes_lit h false LET, passes_lit h true LET⟩
end

def PLUSD : Re := .rep true 1 none (.chars false DIG)
def OPTDOT : Re := .rep true 0 (some 1) (.chars false DOT)
def STARD : Re := .rep true 0 none (.chars false DIG)
def OPTSIGN : Re := .rep true 0 (some 1) (.chars false SIGN)
/-- `[-+]?[0-9]*\.?[0-9]+` -/
def FLOAT : Re := .seq OPTSIGN (.seq STARD (.seq OPTDOT PLUSD))

/-- end of the number starting at `p`, if there is one: optional sign, digits, and a fraction only
if a digit follows the point; at least one digit in all -/
def numEnd (ctx : Ctx) (p : Nat) : Option Nat :=
  let q := if passes ctx false SIGN p then p + 1 else p
  let d1 := span ctx false DIG q
  if passes ctx false DOT d1 && passes ctx false DIG (d1 + 1) then some (span ctx false DIG (d1 + 1))
  else if q < d1 then some d1 else none

theorem numEnd_match {R : Type} (A : Bool) (B : Prop) [Decidable B] (x y : Nat) (c : Caps)
    (k : Nat → Caps → Option R) :
    (match (if A = true then some x else if B then some y else none) with
      | some e => k e c
      | none => none) = if A = true then k x c else if B then k y c else none := by
  cases A
  · by_cases hB : B
    · rw [if_neg Bool.false_ne_true, if_neg Bool.false_ne_true, if_pos hB, if_pos hB]
    · rw [if_neg Bool.false_ne_true, if_neg Bool.false_ne_true, if_neg hB, if_neg hB]
  · rw [if_pos rfl, if_pos rfl]

section
-- the continuation succeeds everywhere behind `p0`: the first complete path wins
variable {R : Type} (ctx : Ctx) (k : Nat → Caps → Option R) (p0 : Nat)
  (hk : ∀ q c, p0 < q → (k q c).isSome)
include hk

theorem digits_eval (q : Nat) (c : Caps) (hq0 : p0 ≤ q) :
    m ctx PLUSD q c k = if passes ctx false DIG q then k (span ctx false DIG q) c else none := by
  by_cases h : passes ctx false DIG q = true
  · have hgt := span_gt_of_pass h
    obtain ⟨r, hr⟩ := Option.isSome_iff_exists.mp (hk (span ctx false DIG q) c (Nat.lt_of_le_of_lt hq0 hgt))
    rw [if_pos h, hr]
    exact m_plus_max h (span_run (Nat.le_of_lt (passes_lt h)) false DIG) hr
  · rw [if_neg h, PLUSD, m_plus_eq, if_neg h]

theorem frac_eval (q : Nat) (c : Caps) (hq : q ≤ ctx.s.size) (hq0 : p0 ≤ q) :
    m ctx (.seq OPTDOT PLUSD) q c k =
      if passes ctx false DOT q then m ctx PLUSD (q + 1) c k else m ctx PLUSD q c k := by
  have hne := succ_beq q
  rw [m_seq, OPTDOT, m_opt_greedy ctx _ q c _ hq, m_chars]
  by_cases hd : passes ctx false DOT q = true
  · rw [if_pos hd, if_pos hd, digits_eval ctx k p0 hk q c hq0, dot_not_digit hd]
    simp only [hne, Bool.false_eq_true, if_false, orElse'_none_r]
  · rw [if_neg hd, if_neg hd, orElse'_none]

/-- `[0-9]*\.?[0-9]+`: the digit run, then a point only if a digit follows it; with no fraction the
last digit of the run is given back to the mandatory `[0-9]+` -/
theorem unsigned_eval (q : Nat) (c : Caps) (hq : q ≤ ctx.s.size) (hq0 : p0 ≤ q) :
    m ctx (.seq STARD (.seq OPTDOT PLUSD)) q c k =
      if passes ctx false DOT (span ctx false DIG q) && passes ctx false DIG (span ctx false DIG q + 1)
      then k (span ctx false DIG (span ctx false DIG q + 1)) c
      else if q < span ctx false DIG q then k (span ctx false DIG q) c else none := by
  have hr := span_run hq false DIG
  generalize span ctx false DIG q = d1 at hr ⊢
  have h0 : p0 ≤ d1 := Nat.le_trans hq0 hr.le
  have kd1 : m ctx (.seq OPTDOT PLUSD) d1 c k =
      if passes ctx false DOT d1 && passes ctx false DIG (d1 + 1)
      then k (span ctx false DIG (d1 + 1)) c else none := by
    rw [frac_eval ctx k p0 hk d1 c hr.inside h0, digits_eval ctx k p0 hk d1 c h0,
      digits_eval ctx k p0 hk (d1 + 1) c (Nat.le_succ_of_le h0), hr.stop]
    cases passes ctx false DOT d1 <;> rfl
  rw [m_seq, STARD]
  by_cases hA : (passes ctx false DOT d1 && passes ctx false DIG (d1 + 1)) = true
  · have hgt := span_gt_of_pass (Bool.and_eq_true_iff.mp hA).2
    rw [if_pos hA] at kd1 ⊢
    rw [m_star_max_eq hr (by rw [kd1]; exact hk _ c (Nat.lt_of_le_of_lt (Nat.le_succ_of_le h0) hgt)), kd1]
  · rw [if_neg hA] at kd1 ⊢
    by_cases hlt : q < d1
    · -- one digit is given back: it starts the mandatory digits
      have hpos : 0 < d1 := Nat.zero_lt_of_lt hlt
      have hdig : passes ctx false DIG (d1 - 1) = true :=
        hr.all (d1 - 1) (Nat.le_sub_one_of_lt hlt) (Nat.sub_one_lt (Nat.ne_of_gt hpos))
      have h1 : p0 ≤ d1 - 1 := Nat.le_trans hq0 (Nat.le_sub_one_of_lt hlt)
      obtain ⟨r, hr'⟩ := Option.isSome_iff_exists.mp (hk d1 c (Nat.lt_of_le_of_lt hq0 hlt))
      rw [if_pos hlt, hr']
      refine m_star_second hr hlt kd1 ?_
      rw [frac_eval ctx k p0 hk (d1 - 1) c (Nat.le_trans (Nat.sub_le _ _) hr.inside) h1,
        digit_not_dot hdig, if_neg Bool.false_ne_true, digits_eval ctx k p0 hk (d1 - 1) c h1, if_pos hdig,
        span_of_pass hdig, Nat.sub_add_cancel hpos,
        span_of_stop hr.stop, hr']
    · rw [if_neg hlt, Nat.le_antisymm hr.le (Nat.not_lt.mp hlt), m_star_empty hr.stop, kd1]

/-- **The number grammar is read greedily.** -/
theorem float_eval (p : Nat) (c : Caps) (hp : p ≤ ctx.s.size) (hp0 : p0 = p) :
    m ctx FLOAT p c k = match numEnd ctx p with | some e => k e c | none => none := by
  have hne := succ_beq p
  rw [FLOAT, m_seq, OPTSIGN, m_opt_greedy ctx _ p c _ hp, m_chars, numEnd, numEnd_match,
    unsigned_eval ctx k p0 hk p c hp (Nat.le_of_eq hp0)]
  by_cases hs : passes ctx false SIGN p = true
  · -- a sign at `p`: skipping the optional sign finds neither digit nor point
    obtain ⟨n1, n2⟩ := sign_not_digit_dot hs
    have hlt := passes_lt hs
    rw [if_pos hs, if_pos hs, span_of_stop n1, n2,
      unsigned_eval ctx k p0 hk (p + 1) c hlt (Nat.le_succ_of_le (Nat.le_of_eq hp0))]
    simp only [hne, Bool.false_and, Bool.false_eq_true, if_false, Nat.lt_irrefl, orElse'_none_r]
  · rw [if_neg hs, if_neg hs, orElse'_none]
end

theorem numEnd_gt (ctx : Ctx) (p e : Nat) (hp : p ≤ ctx.s.size) (h : numEnd ctx p = some e) :
    p < e ∧ e ≤ ctx.s.size := by
  unfold numEnd at h
  have hq : p ≤ (if passes ctx false SIGN p = true then p + 1 else p) ∧
      (if passes ctx false SIGN p = true then p + 1 else p) ≤ ctx.s.size := by
    by_cases hs : passes ctx false SIGN p = true
    · rw [if_pos hs]
      exact ⟨Nat.le_succ p, passes_lt hs⟩
    · rw [if_neg hs]
      exact ⟨Nat.le_refl p, hp⟩
  generalize (if passes ctx false SIGN p = true then p + 1 else p) = q at *
  have hr := span_run hq.2 false DIG
  dsimp only at h
  generalize span ctx false DIG q = d1 at hr h
  have hpd : p ≤ d1 := Nat.le_trans hq.1 hr.le
  by_cases hA : (passes ctx false DOT d1 && passes ctx false DIG (d1 + 1)) = true
  · have hd := (Bool.and_eq_true_iff.mp hA).2
    rw [if_pos hA] at h
    cases h
    exact ⟨Nat.lt_of_le_of_lt (Nat.le_succ_of_le hpd) (span_gt_of_pass hd),
      (span_run (Nat.le_of_lt (passes_lt hd)) false DIG).inside⟩
  · rw [if_neg hA] at h
    by_cases hlt : q < d1
    · rw [if_pos hlt] at h
      cases h
      exact ⟨Nat.lt_of_le_of_lt hq.1 hlt, hr.inside⟩
    · rw [if_neg hlt] at h
      cases h

/-- one token of the parameter string, read directly -/
def scan (ctx : Ctx) (off : Nat) : Option (Nat × Caps) :=
  let p1 := span ctx false SP off
  if passes ctx false LET p1 then
    let p2 := span ctx false SP (p1 + 1)
    match numEnd ctx p2 with
    | some e => some (e, [(2, p2, e), (1, p1, p1 + 1)])
    | none => some (p2, [(1, p1, p1 + 1)])
  else if passes ctx true LET p1 then some (p1 + 1, [(3, p1, p1 + 1)])
  -- the blanks ran to the end of the text: the last one is given back as "any other character"
  else if off < p1 then some (p1, [(3, p1 - 1, p1)])
  else none

theorem scan_end (ctx : Ctx) : scan ctx ctx.s.size = none := by
  simp only [scan, span_of_stop (passes_end ctx false SP), passes_end, Bool.false_eq_true,
    if_false, Nat.lt_irrefl]

/-- the regex regenerated from the source has the shape the scanner theorem is about -/
theorem paramOrStr_shape : Gen.paramOrStr =
    .seq (.rep true 0 none (.chars false SP))
      (.alt (.seq (.group 1 (.chars false LET)) (.seq (.rep true 0 none (.chars false SP))
          (.rep true 0 (some 1) (.group 2 FLOAT))))
        (.group 3 (.chars true LET))) := rfl

theorem optFloat_eval (ctx : Ctx) (p2 : Nat) (c : Caps) (hp2 : p2 ≤ ctx.s.size) :
    m ctx (.rep true 0 (some 1) (.group 2 FLOAT)) p2 c (fun p c => some (p, c)) =
      match numEnd ctx p2 with
      | some e => some (e, (2, p2, e) :: c)
      | none => some (p2, c) := by
  rw [m_opt_greedy ctx _ p2 _ _ hp2, m_group,
    float_eval ctx _ p2 (fun q c' hq => by rw [if_neg (by rw [beq_iff_eq]; exact Nat.ne_of_gt hq)]; rfl)
      p2 _ hp2 rfl]
  cases hn : numEnd ctx p2 with
  | none => rfl
  | some e =>
    have hne : (e == p2) = false :=
      beq_eq_false_iff_ne.mpr (Nat.ne_of_gt (numEnd_gt ctx p2 e hp2 hn).1)
    simp only [hne, Bool.false_eq_true, if_false]
    rfl

theorem word_eval (ctx : Ctx) (p : Nat) (c : Caps) :
    m ctx (.alt (.seq (.group 1 (.chars false LET)) (.seq (.rep true 0 none (.chars false SP))
        (.rep true 0 (some 1) (.group 2 FLOAT)))) (.group 3 (.chars true LET))) p c (fun p c => some (p, c)) =
      if passes ctx false LET p then
        (match numEnd ctx (span ctx false SP (p + 1)) with
          | some e => some (e, (2, span ctx false SP (p + 1), e) :: (1, p, p + 1) :: c)
          | none => some (span ctx false SP (p + 1), (1, p, p + 1) :: c))
      else if passes ctx true LET p then some (p + 1, (3, p, p + 1) :: c) else none := by
  rw [m_alt, m_seq, m_group, m_chars, m_group, m_chars]
  by_cases hl : passes ctx false LET p = true
  · have hr2 := span_run (passes_lt hl) false SP
    rw [if_pos hl, if_pos hl, m_seq]
    generalize span ctx false SP (p + 1) = p2 at hr2 ⊢
    have opt := optFloat_eval ctx p2 ((1, p, p + 1) :: c) hr2.inside
    rw [m_star_max_eq hr2 (by rw [opt]; cases numEnd ctx p2 <;> rfl), opt]
    cases numEnd ctx p2 <;> rfl
  · rw [if_neg hl, if_neg hl, orElse'_none]

/-- **`REGEX_PARAMETER_OR_STR.match(source, off)` is the scanner.** -/
theorem scan_eq (s : Array Char) (off : Nat) (hoff : off ≤ s.size) :
    matchAt Gen.paramOrStr s off = scan ⟨s⟩ off := by
  rw [paramOrStr_shape, matchAt, scan, m_seq]
  change off ≤ (⟨s⟩ : Ctx).s.size at hoff
  generalize (⟨s⟩ : Ctx) = ctx at hoff ⊢
  have hr := span_run hoff false SP
  generalize span ctx false SP off = p1 at hr ⊢
  have hw := word_eval ctx p1 []
  by_cases hl : passes ctx false LET p1 = true
  · rw [if_pos hl] at hw ⊢
    rw [m_star_max_eq hr (by rw [hw]; cases numEnd ctx (span ctx false SP (p1 + 1)) <;> rfl)]
    exact hw
  · rw [if_neg hl] at hw ⊢
    by_cases hn : passes ctx true LET p1 = true
    · rw [if_pos hn] at hw ⊢
      exact m_star_max hr hw
    · rw [if_neg hn] at hw ⊢
      by_cases hlt : off < p1
      · -- back off one blank: it is matched as "any other character"
        have hpos : 0 < p1 := Nat.zero_lt_of_lt hlt
        obtain ⟨s1, s2⟩ := space_nonletter
          (hr.all (p1 - 1) (Nat.le_sub_one_of_lt hlt) (Nat.sub_one_lt (Nat.ne_of_gt hpos)))
        have hw1 := word_eval ctx (p1 - 1) []
        rw [if_neg (by rw [s1]; exact Bool.false_ne_true), if_pos s2, Nat.sub_add_cancel hpos] at hw1
        rw [if_pos hlt]
        exact m_star_second hr hlt hw hw1
      · have he : off = p1 := Nat.le_antisymm hr.le (Nat.not_lt.mp hlt)
        rw [if_neg hlt, he, m_star_empty hr.stop]
        exact hw

end ERP.Rx
