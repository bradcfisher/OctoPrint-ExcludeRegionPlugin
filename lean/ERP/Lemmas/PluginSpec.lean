import ERP.Spec.Lifecycle
import ERP.Lemmas.Monad
/-! # What the operations of the plugin shell do

Statements from which the property modules about the shell (C10–C13) argue: the equations
`onApiCommand_*`, `step_printStarted`, `onEvent_of_endsPrint`; `onApiCommand_spec`,
`replaceFirst_eq_ok_iff`, `onEvent_regions`, `step_eq`. -/
namespace ERP
variable {α : Type}

theorem getRegion_none {s : FState α} {i : String} (h : s.getRegion i = none) :
    i ∉ s.excludedRegions.map Region.id := by
  unfold FState.getRegion at h
  rw [List.find?_eq_none] at h
  intro hm
  obtain ⟨r, hr, rfl⟩ := List.mem_map.mp hm
  exact h r hr (beq_self_eq_true _)

theorem deleteFirst_sublist {rs rs' : List (Region α)} {i : String} (h : deleteFirst rs i = some rs') :
    rs'.Sublist rs := by
  induction rs generalizing rs' with
  | nil => cases h
  | cons r rest ih =>
    unfold deleteFirst at h
    split at h
    · cases h
      exact List.sublist_cons_self _ _
    · obtain ⟨t, ht, rfl⟩ := Option.map_eq_some_iff.mp h
      exact (ih ht).cons_cons r

/-- the plugin with a new region list, the clients told about it -/
def Plugin.withRegions (p : Plugin α) (rs : List (Region α)) : Plugin α :=
  ({ p with st := { p.st with excludedRegions := rs } }).notify

@[simp] theorem Plugin.withRegions_regions (p : Plugin α) (rs : List (Region α)) :
    (p.withRegions rs).st.excludedRegions = rs := rfl

@[simp] theorem Plugin.withRegions_notifications (p : Plugin α) (rs : List (Region α)) :
    (p.withRegions rs).notifications = p.notifications ++ [rs] := rfl

section
variable [Add α] [Sub α] [LE α] [DecidableLE α] [MathOps α]

theorem and_not_eq_false {m b : Bool} : (m && !b) = false ↔ (m = true → b = true) := by
  cases m <;> cases b <;> decide

/-- `replaceFirst` succeeds exactly when the list splits at the first region with the id of `new`
and, if `must`, `new` is reported to contain that region; the result replaces just that one. -/
theorem replaceFirst_eq_ok_iff (rs rs' : List (Region α)) (new : Region α) (must : Bool) :
    replaceFirst rs new must = .ok rs' ↔
      ∃ pre old post, rs = pre ++ old :: post ∧ rs' = pre ++ new :: post ∧
        (old.id == new.id) = true ∧ (∀ r ∈ pre, (r.id == new.id) = false) ∧
        (must = true → new.containsRegion old = true) := by
  induction rs generalizing rs' with
  | nil =>
    constructor
    · intro h
      cases h
    · rintro ⟨pre, old, post, e, -⟩
      cases pre <;> cases e
  | cons r rest ih =>
    unfold replaceFirst
    by_cases hid : (r.id == new.id) = true
    · rw [if_pos hid]
      constructor
      · intro h
        split at h
        · cases h
        · rename_i hc
          cases h
          exact ⟨[], r, rest, rfl, rfl, hid, nofun, and_not_eq_false.mp (Bool.eq_false_iff.mpr hc)⟩
      · rintro ⟨pre, old, post, e1, e2, -, e4, e5⟩
        cases pre with
        | nil =>
          cases e1
          subst e2
          rw [if_neg (Bool.eq_false_iff.mp (and_not_eq_false.mpr e5))]
          rfl
        | cons q pre =>
          cases e1
          exact Bool.noConfusion (hid.symm.trans (e4 _ List.mem_cons_self))
    · rw [if_neg hid]
      constructor
      · intro h
        obtain ⟨t, ht, h2⟩ := M.bind_eq_ok h
        cases h2
        obtain ⟨pre, old, post, e1, e2, e3, e4, e5⟩ := (ih t).mp ht
        exact ⟨r :: pre, old, post, by rw [e1]; rfl, by rw [e2]; rfl, e3,
          List.forall_mem_cons.mpr ⟨Bool.eq_false_iff.mpr hid, e4⟩, e5⟩
      · rintro ⟨pre, old, post, e1, e2, e3, e4, e5⟩
        cases pre with
        | nil =>
          cases e1
          exact absurd e3 hid
        | cons q pre =>
          cases e1
          rw [(ih (pre ++ new :: post)).mpr ⟨pre, old, post, rfl, rfl, e3,
            fun r hr => e4 r (List.mem_cons_of_mem _ hr), e5⟩, e2]
          rfl

theorem replaceFirst_ids (rs rs' : List (Region α)) (new : Region α) (must : Bool)
    (h : replaceFirst rs new must = .ok rs') : rs'.map Region.id = rs.map Region.id := by
  obtain ⟨pre, old, post, rfl, rfl, e, -⟩ := (replaceFirst_eq_ok_iff rs rs' new must).mp h
  rw [List.map_append, List.map_append, List.map_cons, List.map_cons, beq_iff_eq.mp e]

/-- how an accepted request changes the region list (the guard of `update` and `delete` is "a print
is active and regions may not shrink") -/
def ApiEffect (p : Plugin α) : ApiReq α → List (Region α) → Prop
  | .add r, rs => p.st.getRegion r.id = none ∧ rs = p.st.excludedRegions ++ [r]
  | .update r, rs =>
    replaceFirst p.st.excludedRegions r (!p.mayShrinkRegionsWhilePrinting && p.activePrintJob) = .ok rs
  | .delete i, rs =>
    (!p.mayShrinkRegionsWhilePrinting && p.activePrintJob) = false ∧
      deleteFirst p.st.excludedRegions i = some rs
  | _, _ => False

theorem onApiCommand_add (p : Plugin α) (r : Region α) :
    p.onApiCommand false (.add r) =
      match p.st.getRegion r.id with
      | none => (p.withRegions (p.st.excludedRegions ++ [r]), none)
      | some _ => (p, some 409) := by
  cases h : p.st.getRegion r.id <;>
    simp only [Plugin.onApiCommand, FState.addRegion, Bool.false_eq_true, if_false, h,
      Plugin.withRegions]

theorem onApiCommand_update (p : Plugin α) (r : Region α) :
    p.onApiCommand false (.update r) =
      match replaceFirst p.st.excludedRegions r
        (!p.mayShrinkRegionsWhilePrinting && p.activePrintJob) with
      | .ok rs => (p.withRegions rs, none)
      | .error _ => (p, some 409) := by
  cases h : replaceFirst p.st.excludedRegions r
      (!p.mayShrinkRegionsWhilePrinting && p.activePrintJob) <;>
    simp only [Plugin.onApiCommand, FState.replaceRegion, Bool.false_eq_true, if_false, h,
      Plugin.withRegions] <;> rfl

theorem onApiCommand_delete (p : Plugin α) (i : String) :
    p.onApiCommand false (.delete i) =
      if !p.mayShrinkRegionsWhilePrinting && p.activePrintJob then (p, some 409)
      else match deleteFirst p.st.excludedRegions i with
        | some rs => (p.withRegions rs, none)
        | none => (p, none) := by
  cases hg : (!p.mayShrinkRegionsWhilePrinting && p.activePrintJob) <;>
  cases hd : deleteFirst p.st.excludedRegions i <;>
    simp only [Plugin.onApiCommand, FState.deleteRegion, Bool.false_eq_true, if_false, if_true, hg,
      hd, Plugin.withRegions]

/-- An API request leaves the plugin untouched (it is refused, or deletes an id that is not
there), or replaces the region list as `ApiEffect` says and notifies the clients once. -/
theorem onApiCommand_spec (p : Plugin α) (anon : Bool) (req : ApiReq α) :
    (∃ c, p.onApiCommand anon req = (p, c)) ∨
    ∃ rs, ApiEffect p req rs ∧ p.onApiCommand anon req = (p.withRegions rs, none) := by
  cases anon with
  | true => exact .inl ⟨_, rfl⟩
  | false =>
  cases req with
  | badType c => exact .inl ⟨_, rfl⟩
  | unknown => exact .inl ⟨_, rfl⟩
  | delete i =>
    rw [onApiCommand_delete]
    cases hg : (!p.mayShrinkRegionsWhilePrinting && p.activePrintJob)
    · cases hd : deleteFirst p.st.excludedRegions i with
      | none => exact .inl ⟨_, rfl⟩
      | some t => exact .inr ⟨t, ⟨hg, hd⟩, rfl⟩
    · exact .inl ⟨_, rfl⟩
  | add r =>
    rw [onApiCommand_add]
    cases hg : p.st.getRegion r.id with
    | some _ => exact .inl ⟨_, rfl⟩
    | none => exact .inr ⟨_, ⟨hg, rfl⟩, rfl⟩
  | update r =>
    rw [onApiCommand_update]
    cases hr : replaceFirst p.st.excludedRegions r
        (!p.mayShrinkRegionsWhilePrinting && p.activePrintJob) with
    | error e => exact .inl ⟨_, rfl⟩
    | ok t => exact .inr ⟨t, hr, rfl⟩

end

section
variable [OfNat α 0] [OfNat α 1]

theorem onEvent_of_endsPrint (p : Plugin α) {e : Event} (he : e.endsPrint = true) :
    p.onEvent e =
      if p.clearRegionsAfterPrintFinishes then
        ({ p with activePrintJob := false, st := FState.reset [] }).notify
      else { p with activePrintJob := false } := by
  cases e with
  | printDone => rfl
  | printFailed => rfl
  | printCancelling => rfl
  | printCancelled => rfl
  | error => rfl
  | fileSelected => cases he
  | settingsUpdated => cases he
  | printStarted => cases he
  | other n => cases he

/-- An event leaves the region list alone, or (a file is selected; a print ends and the
clear-after-print setting is on) empties it and tells the clients. -/
theorem onEvent_regions (p : Plugin α) (e : Event) :
    ((p.onEvent e).st.excludedRegions = p.st.excludedRegions ∧
      (p.onEvent e).notifications = p.notifications) ∨
    ((p.onEvent e).st.excludedRegions = [] ∧
      (p.onEvent e).notifications = p.notifications ++ [[]]) := by
  cases he : e.endsPrint
  · cases e with
    | fileSelected => exact .inr ⟨rfl, rfl⟩
    | settingsUpdated => exact .inl ⟨rfl, rfl⟩
    | printStarted => exact .inl ⟨rfl, rfl⟩
    | other n => exact .inl ⟨rfl, rfl⟩
    | _ => cases he
  · rw [onEvent_of_endsPrint p he]
    split
    · exact .inr ⟨rfl, rfl⟩
    · exact .inl ⟨rfl, rfl⟩

end

section
variable [Add α] [Sub α] [Mul α] [Div α] [Neg α] [LT α] [LE α] [BEq α]
  [OfNat α 0] [OfNat α 1] [OfNat α 2] [DecidableLT α] [DecidableLE α] [MathOps α] [OfDecimal α]

theorem step_printStarted (inch : α) (p : Plugin α) :
    (p.step inch (.event .printStarted)).1 =
      { p with st := FState.reset p.st.excludedRegions, activePrintJob := true } := rfl

/-- what an operation does to the stored settings and the three values copied from them: only a
settings save and the settings-updated event touch them -/
def Plugin.conf (p : Plugin α) : POp α → Plugin α
  | .save s => ({ p with settings := s }).handleSettingsUpdated
  | .event .settingsUpdated => p.handleSettingsUpdated
  | _ => p

/-- What every operation does to the settings side (`conf`) and to the print flag (the reference
automaton), and that filter state and output do not depend on the log: they are those of the
same operation started from any other log `n`. -/
theorem step_eq (inch : α) (p : Plugin α) (n : List (List (Region α))) (op : POp α) :
    ({ p with notifications := n }).step inch op =
      ({ p.conf op with
          activePrintJob := specActiveOp p.activePrintJob op
          st := (p.step inch op).1.st
          notifications := (({ p with notifications := n }).step inch op).1.notifications },
       (p.step inch op).2) := by
  -- with `p` destructured the updates reduce; split on each condition the model tests, leaves `rfl`
  obtain ⟨s, c, m, cfg, a, st, n0⟩ := p
  cases op with
  | event e =>
    cases e with
    | printDone | printFailed | printCancelling | printCancelled | error => cases c <;> rfl
    | _ => rfl
  | save s => rfl
  | get => rfl
  | api anon req =>
    cases anon with
    | true => rfl
    | false =>
    cases req with
    | delete i =>
      dsimp only [Plugin.step, Plugin.onApiCommand]
      cases (!m && a) with
      | true => rfl
      | false => cases st.deleteRegion i with | mk st' removed => cases removed <;> rfl
    | add r =>
      dsimp only [Plugin.step, Plugin.onApiCommand]
      cases st.addRegion r <;> rfl
    | update r =>
      dsimp only [Plugin.step, Plugin.onApiCommand]
      cases st.replaceRegion r (!m && a) <;> rfl
    | _ => rfl
  | gcode cmd g =>
    cases g with
    | none => rfl
    | some g =>
      dsimp only [Plugin.step, Plugin.handleGcodeQueuing]
      cases (!g.isEmpty && a) with
      | false => rfl
      | true => cases handleGcodeText cfg inch st cmd g <;> rfl
  | atCmd sm cmd ps =>
    cases a with
    | false => rfl
    | true =>
      dsimp only [Plugin.step, Plugin.handleAtCommandQueuing]
      cases handleAtCommand cfg st sm cmd ps <;> rfl
  | script ty nm =>
    dsimp only [Plugin.step, Plugin.handleScriptHook]
    cases (ty == "gcode" && nm == "afterPrintDone") with
    | false => rfl
    | true =>
      cases (a && st.excluding) with
      | false => rfl
      | true => cases st.exitExcludedRegion cfg <;> rfl

end

end ERP
