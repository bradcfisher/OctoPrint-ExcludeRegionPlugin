import ERP.Lemmas.LineTotal
/-! # What a successful match of `REGEX_GCODE_LINE` and of `REGEX_GCODE_CODE` captured

The capture spans of the line regex partition the matched text.  `tail_stage` and `body_stage` are
about any regex of the *shape* of the generated one (five top-level groups 1, 2, 11, 12?, 13; the
checksum group 10 last inside the first alternative of group 2) with arbitrary parts;
`gcodeLine_spans` instantiates them on the regex regenerated from the source, where the conditions on
the groups of the parts hold by `rfl` — a regenerated regex of another shape stops type-checking
there.  Then `gcodeLine_progress`, and `gcodeCode_caps` for `REGEX_GCODE_CODE`. -/
namespace ERP.Rx

theorem tail_stage (ctx : Ctx) (W C E : Re) (hW : W.groups = []) (hC : C.groups = []) (hE : E.groups = [])
    (p2 : Nat) (c2 : Caps) (hp2 : p2 ≤ ctx.s.size) :
    WP ctx (.seq (.group 11 W) (.seq (.rep true 0 (some 1) (.group 12 C)) (.group 13 E))) p2 c2
      (fun e caps => ∃ p3 p4, p2 ≤ p3 ∧ p3 ≤ p4 ∧ p4 ≤ e ∧ e ≤ ctx.s.size ∧
        capOf caps 11 = some (p2, p3) ∧
        ((capOf caps 12 = capOf c2 12 ∧ p4 = p3) ∨ capOf caps 12 = some (p3, p4)) ∧
        capOf caps 13 = some (p4, e) ∧
        ∀ j, j ≠ 11 → j ≠ 12 → j ≠ 13 → capOf caps j = capOf c2 j) := by
  -- without groups inside `W`, `C`, `E` the captures at the end are `c2` under two or three new entries
  refine wp_seq (wp_group (wp_nogroup W hW hp2 fun p3 h23 hp3 => wp_seq (wp_opt ?_ ?_)))
  · refine wp_group (wp_nogroup E hE hp3 fun e h3e he => ?_)
    refine ⟨p3, p3, h23, Nat.le_refl _, h3e, he, rfl, .inl ⟨rfl, rfl⟩, rfl, fun j j11 _ j13 => ?_⟩
    rw [capOf_cons_ne j13, capOf_cons_ne j11]
  · refine wp_group (wp_nogroup C hC hp3 fun p4 h34 hp4 => wp_group (wp_nogroup E hE hp4 fun e h4e he => ?_))
    refine ⟨p3, p4, h23, h34, h4e, he, rfl, .inr rfl, rfl, fun j j11 j12 j13 => ?_⟩
    rw [capOf_cons_ne j13, capOf_cons_ne j12, capOf_cons_ne j11]

theorem body_stage (ctx : Ctx) (a1 a2 a3 a4 a5 a6 D B : Re) (G : List Nat)
    (hG : G = a1.groups ++ a2.groups ++ a3.groups ++ a4.groups ++ a5.groups ++ a6.groups ++ B.groups)
    (hD : D.groups = []) (p1 : Nat) (c : Caps) (hp1 : p1 ≤ ctx.s.size) :
    WP ctx (.alt (.seq a1 (.seq a2 (.seq a3 (.seq a4 (.seq a5 (.seq a6
        (.rep true 0 (some 1) (.seq (.chars false [.lit '*']) (.group 10 D)))))))))
        B) p1 c
      (fun p2 c' => p1 ≤ p2 ∧ p2 ≤ ctx.s.size ∧
        (∀ j, j ∉ G → j ≠ 10 → capOf c' j = capOf c j) ∧
        ((10 ∉ G → capOf c' 10 = capOf c 10) ∨
          ∃ a, capOf c' 10 = some (a, p2) ∧ p1 < a ∧ a ≤ p2 ∧ ∃ h : a - 1 < ctx.s.size, ctx.s[a - 1] = '*')) := by
  have hB : ∀ j, j ∈ B.groups → j ∈ G := fun j h => hG ▸ List.mem_append_right _ h
  apply wp_alt
  · -- the six parts in front of the checksum, taken as one regex
    refine wp_seq_assoc (wp_seq_assoc (wp_seq_assoc (wp_seq_assoc (wp_seq_assoc ?_))))
    apply wp_pre hp1
    intro q6 c6 F6
    have F : Frame ctx G p1 c q6 c6 := F6.mono fun j hj => hG ▸ List.mem_append_left _ hj
    apply wp_opt
    · exact ⟨F.le, F.inside, fun j hj _ => F.keep j hj, .inl (F.keep 10)⟩
    · refine wp_seq (wp_chars fun ht => wp_group (wp_nogroup D hD (passes_lt ht) fun p2 h62 hp2 => ?_))
      have h16 := F.le
      refine ⟨by omega, hp2, fun j hj j10 => ?_,
        .inr ⟨q6 + 1, capOf_cons_eq, by omega, h62, passes_lit_get ht⟩⟩
      rw [capOf_cons_ne j10]
      exact F.keep j hj
  · apply wp_any B hp1
    intro p2 c' f
    exact ⟨f.le, f.inside, fun j hj _ => f.keep j fun h => hj (hB j h),
      .inl fun h => f.keep 10 fun h' => h (hB 10 h')⟩

structure LineSpans (s : Array Char) (off e : Nat) (caps : Caps) : Prop where
  ex : ∃ p1 p2 p3 p4, off ≤ p1 ∧ p1 ≤ p2 ∧ p2 ≤ p3 ∧ p3 ≤ p4 ∧ p4 ≤ e ∧ e ≤ s.size ∧
    capOf caps 1 = some (off, p1) ∧ capOf caps 2 = some (p1, p2) ∧ capOf caps 11 = some (p2, p3) ∧
    ((capOf caps 12 = none ∧ p4 = p3) ∨ capOf caps 12 = some (p3, p4)) ∧
    capOf caps 13 = some (p4, e) ∧
    (capOf caps 10 = none ∨
      ∃ a, capOf caps 10 = some (a, p2) ∧ p1 < a ∧ a ≤ p2 ∧ ∃ h : a - 1 < s.size, s[a - 1] = '*')

/-- **Span theorem.**  Whenever `REGEX_GCODE_LINE` (as regenerated from the source) matches at
`off`, its groups 1, 2, 11, 12 (optional) and 13 tile the matched text `[off, e)` in this order,
and the checksum digits, when present, are the tail of group 2 preceded by `*`. -/
theorem gcodeLine_spans (s : Array Char) (off e : Nat) (caps : Caps) (hoff : off ≤ s.size)
    (h : matchAt Gen.gcodeLine s off = some (e, caps)) : LineSpans s off e caps := by
  refine WP.of_matchAt (Q := fun e caps => LineSpans s off e caps) ?_ h
  unfold Gen.gcodeLine
  refine wp_seq (wp_group (wp_nogroup _ rfl hoff fun p1 h01 hp1 => wp_seq (wp_group ?_)))
  apply wp_mono (body_stage ⟨s⟩ _ _ _ _ _ _ _ _ _ rfl rfl p1 _ hp1)
  intro p2 c2 ⟨h12, hp2, hkeep, h10⟩
  apply wp_mono (tail_stage ⟨s⟩ _ _ _ rfl rfl rfl p2 _ hp2)
  intro e caps ⟨p3, p4, h23, h34, h4e, he, c11, c12, c13, hrest⟩
  -- below groups 11, 12, 13 and 2 the captures are what the body left on top of group 1
  have below : ∀ j, j ≠ 11 → j ≠ 12 → j ≠ 13 → j ≠ 2 → capOf caps j = capOf c2 j := fun j j11 j12 j13 j2 =>
    (hrest j j11 j12 j13).trans (capOf_cons_ne j2)
  refine ⟨p1, p2, p3, p4, h01, h12, h23, h34, h4e, he, ?_, ?_, c11, ?_, c13, ?_⟩
  · rw [below 1 (by decide) (by decide) (by decide) (by decide), hkeep 1 (by decide) (by decide)]
    rfl
  · rw [hrest 2 (by decide) (by decide) (by decide)]
    exact capOf_cons_eq
  · rcases c12 with ⟨h, rfl⟩ | h
    · refine .inl ⟨?_, rfl⟩
      rw [h, capOf_cons_ne (by decide), hkeep 12 (by decide) (by decide)]
      rfl
    · exact .inr h
  · rw [below 10 (by decide) (by decide) (by decide) (by decide)]
    rcases h10 with h | h
    · rw [h (by decide)]
      exact .inl rfl
    · exact .inr h

/-- **Progress** of a match of `REGEX_GCODE_LINE`. -/
theorem gcodeLine_progress (s : Array Char) (off e : Nat) (caps : Caps) (hoff : off ≤ s.size)
    (h : matchAt Gen.gcodeLine s off = some (e, caps)) : off < e ∨ e = s.size := by
  have key : WP ⟨s⟩ Gen.gcodeLine off [] (fun e _ => off < e ∨ e = s.size) := by
    unfold Gen.gcodeLine
    -- everything in front of the line ending, taken as one regex
    refine wp_seq_assoc (wp_seq_assoc (wp_seq_assoc ?_))
    apply wp_pre hoff
    intro p4 c4 f4
    have h04 : off ≤ p4 := f4.le
    exact wp_eol fun e he => he.elim (fun h => .inl (Nat.lt_of_le_of_lt h04 h.1)) fun h => .inr (h.1.trans h.2)
  exact key.of_matchAt h

/-- what a successful match of `REGEX_GCODE_CODE` captured: a one-character type (group 1 or,
with groups 1 and 2 unset, group 4) and a non-empty number (group 2 resp. 5), inside the text -/
def CodeCaps (n : Nat) (caps : Caps) : Prop :=
  (∃ p q q', capOf caps 1 = some (p, p + 1) ∧ p < n ∧ capOf caps 2 = some (q, q') ∧ q < q' ∧ q' ≤ n) ∨
  (∃ p q q', capOf caps 1 = none ∧ capOf caps 2 = none ∧ capOf caps 4 = some (p, p + 1) ∧ p < n ∧
    capOf caps 5 = some (q, q') ∧ q < q' ∧ q' ≤ n)

theorem gcodeCode_caps (s : Array Char) (e : Nat) (caps : Caps)
    (h : matchAt Gen.gcodeCode s 0 = some (e, caps)) : CodeCaps s.size caps := by
  refine WP.of_matchAt (Q := fun _ caps => CodeCaps s.size caps) ?_ h
  unfold Gen.gcodeCode
  -- blanks carry no group: the captures are exactly the groups written out below
  refine wp_seq (wp_at fun _ => wp_seq (wp_nogroup _ rfl (Nat.zero_le _) fun p1 _ hp1 => wp_seq (wp_alt ?_ ?_)))
  · refine wp_seq (wp_group (wp_chars fun ht => ?_))
    have hlt := passes_lt ht
    refine wp_seq (wp_nogroup _ rfl hlt fun p2 _ hp2 => wp_seq (wp_group (wp_plus fun p3 h23 hp3 => ?_)))
    apply wp_any _ hp3
    intro p4 c4 f4
    refine wp_nogroup _ rfl f4.inside fun p5 _ _ => .inl ⟨p1, p2, p3, ?_, hlt, ?_, h23, hp3⟩
    · rw [f4.keep 1 (by decide)]
      rfl
    · rw [f4.keep 2 (by decide)]
      rfl
  · refine wp_seq (wp_group (wp_chars fun ht => ?_))
    have hlt := passes_lt ht
    refine wp_seq (wp_nogroup _ rfl hlt fun p2 _ hp2 => wp_group (wp_plus fun p3 h23 hp3 => ?_))
    exact wp_nogroup _ rfl hp3 fun p5 _ _ => .inr ⟨p1, p2, p3, rfl, rfl, rfl, hlt, rfl, h23, hp3⟩

end ERP.Rx
