import ERP.Lemmas.Moves
import ERP.Lemmas.Spec
import ERP.Lemmas.Monad
/-! # Refinement: on well-formed states the faithful (exception-aware) model is `.ok` of the total model

Each faithful function is its total twin with error branches added, so each `_ok` proof rewrites the
calls it makes to `.ok` of their totals and pushes `.ok` out through the `if`s
(`apply_ite Except.ok`). Well-formedness goes along the state equations of `ERP.Lemmas.Moves`: in
exact arithmetic the retraction bookkeeping changes `lastRetraction` only (`ETouch.frame`).
The end results are `handleGcode_ok` and `handleAtCommand_ok`. -/
namespace ERP
open T M

section
variable {ε β γ : Type}
@[simp] theorem pure_eq_ok (a : β) : (pure a : Except ε β) = .ok a := rfl
end

section
variable {α : Type}

/-- the hook protocol: a list that is returned is non-empty -/
def Result.Shape : Result α → Prop
  | .none => True
  | .ignore => True
  | .list l => l ≠ []

/-- the hook's `if cmds: return cmds else: return IGNORE` -/
theorem toResult_ok (s : FState α) (cmds : List (Out α)) :
    (if cmds.isEmpty then Except.ok (s, Result.ignore) else .ok (s, .list cmds) :
      Except PyErr (FState α × Result α)) = .ok (T.toResult (s, cmds)) := by
  unfold T.toResult; split <;> rfl

theorem toResult_shape (p : FState α × List (Out α)) : Result.Shape (T.toResult p).2 := by
  unfold T.toResult
  split
  · trivial
  · rename_i h; exact fun e => h (e ▸ rfl)

/-- a retraction done by `G1` carries its amount and feed rate (`_addCommands` computes with them) -/
def RetrOk (r : Retraction α) : Prop :=
  r.firmwareRetract = false → r.extrusionAmount.isSome = true ∧ r.feedRate.isSome = true

theorem newRetr_retrOk (cmd : Cmd α) (d f : α) :
    RetrOk ({ firmwareRetract := false, extrusionAmount := some d, feedRate := some f,
              originalCommand := cmd } : Retraction α) := fun _ => ⟨rfl, rfl⟩

theorem fwRetr_retrOk (cmd : Cmd α) :
    RetrOk ({ firmwareRetract := true, extrusionAmount := none, feedRate := none,
              originalCommand := cmd } : Retraction α) := fun hf => Bool.noConfusion hf

end

variable {α : Type} [Field α] [LinearOrder α]

/-- the axis knows where it stands and its unit is not zero: no conversion computes with `None`
or divides by zero -/
def AxisOk (a : Axis α) : Prop := a.current.isSome = true ∧ a.unitMultiplier ≠ 0
def PosOk (p : Position α) : Prop := AxisOk p.x ∧ AxisOk p.y ∧ AxisOk p.z ∧ AxisOk p.e

/-- Well-formed filter states: every axis position known, unit multipliers non-zero, an open
episode has a (homed) pre-episode position, a non-firmware retraction carries its numbers. -/
structure WF (s : FState α) : Prop where
  pos : PosOk s.position
  fru : s.feedRateUnitMultiplier ≠ 0
  lastPos : s.excluding = true → ∃ lp, s.lastPosition = some lp ∧ PosOk lp
  retr : ∀ lr, s.lastRetraction = some lr → lr.firmwareRetract = false →
    lr.extrusionAmount.isSome = true ∧ lr.feedRate.isSome = true

section
omit [LinearOrder α]

theorem PosOk.x {p : Position α} (h : PosOk p) : AxisOk p.x := h.1
theorem PosOk.y {p : Position α} (h : PosOk p) : AxisOk p.y := h.2.1
theorem PosOk.z {p : Position α} (h : PosOk p) : AxisOk p.z := h.2.2.1
theorem PosOk.e {p : Position α} (h : PosOk p) : AxisOk p.e := h.2.2.2

theorem AxisOk.cur_eq {a : Axis α} (h : AxisOk a) : a.current = some (cur a) := by
  obtain ⟨c, hc⟩ := Option.isSome_iff_exists.mp h.1
  rw [cur, hc, Option.getD_some]

theorem cur_of_current {a : Axis α} {c : α} (h : a.current = some c) : cur a = c := by
  rw [cur, h, Option.getD_some]

theorem l2n_ok {a : Axis α} (h : AxisOk a) (v : α) : a.logicalToNative v = .ok (l2n a v) := by
  unfold Axis.logicalToNative l2n
  rw [h.cur_eq]
  cases a.absoluteMode <;> rfl

theorem setLog_ok {a : Axis α} (h : AxisOk a) (p : Option α) :
    a.setLogicalPosition p = .ok (setLog a p, (setLog a p).current) := by
  cases p with
  | none => rfl
  | some v => simp only [Axis.setLogicalPosition, setLog, l2n_ok h, ok_bind]

theorem setLog_AxisOk {a : Axis α} (h : AxisOk a) (p : Option α) : AxisOk (setLog a p) := by
  cases p with
  | none => exact h
  | some v => exact ⟨rfl, h.2⟩

theorem loopAxis_AxisOk {a : Axis α} (h : AxisOk a) (vs : List (Option α)) :
    AxisOk (loopAxis a vs) := by
  induction vs generalizing a with
  | nil => exact h
  | cons v rest ih => exact ih (setLog_AxisOk h v)

theorem AxisOk.eta {a : Axis α} (h : AxisOk a) :
    ({ a with current := some (cur a) } : Axis α) = a := by
  obtain ⟨c, ho, o, ab, u⟩ := a
  exact congrArg (Axis.mk · ho o ab u) h.cur_eq.symm

theorem setLog_getD_abs (a : Axis α) (ha : AxisOk a) (habs : a.absoluteMode = true) (v : Option α) :
    setLog a (some (v.getD (n2l a))) = setLog a v := by
  cases v with
  | some v => rfl
  | none => simp only [Option.getD_none, setLog, l2n_n2l_abs a habs ha.2]; exact ha.eta

theorem setOffsetPos_ok {a : Axis α} (h : AxisOk a) (v : α) :
    a.setLogicalOffsetPosition v = .ok (setOffsetPos a v) := by
  simp only [Axis.setLogicalOffsetPosition, l2n_ok h, ok_bind, h.cur_eq, setOffsetPos]

theorem setHomeOffset_ok {a : Axis α} (h : AxisOk a) (v : α) :
    a.setHomeOffset v = .ok (T.setHomeOffset a v) := by
  simp only [Axis.setHomeOffset, h.cur_eq, T.setHomeOffset]

end

theorem pyDiv_ok (a b : α) (h : b ≠ 0) : pyDiv a b = .ok (a / b) := by
  rw [pyDiv, if_neg (by rwa [beq_iff_eq])]

theorem n2l_ok {a : Axis α} (h : AxisOk a) : a.nativeToLogical = .ok (n2l a) := by
  unfold Axis.nativeToLogical n2l
  rw [h.cur_eq]
  exact pyDiv_ok _ _ h.2

theorem n2lAbs_ok {a : Axis α} (h : AxisOk a) (v : α) :
    a.nativeToLogical (some v) (some true) = .ok (n2lAbs a v) := pyDiv_ok _ _ h.2

section
omit [LinearOrder α]

theorem combine_ok (r o : Retraction α) (hr : RetrOk r) (ho : RetrOk o) :
    r.combine o = .ok (T.combine r o) := by
  unfold Retraction.combine T.combine
  cases r.allowCombine
  · rfl
  · cases h2 : r.firmwareRetract
    · cases h3 : o.firmwareRetract
      · -- the one case in which amounts are added: both records carry one
        obtain ⟨a, ha⟩ := Option.isSome_iff_exists.mp (hr h2).1
        obtain ⟨b, hb⟩ := Option.isSome_iff_exists.mp (ho h3).1
        rw [ha, hb]; rfl
      · rfl
    · cases o.firmwareRetract <;> rfl

theorem combine_retrOk (r o : Retraction α) (hr : RetrOk r) : RetrOk (T.combine r o) := by
  unfold T.combine
  split
  · intro hf; exact ⟨rfl, (hr hf).2⟩
  · exact hr

end

theorem addCommands_ok (r : Retraction α) (dir : α) (p : Position α) (hr : RetrOk r)
    (he : AxisOk p.e) : r.addCommands dir p = .ok (T.addCommands r dir p) := by
  unfold Retraction.addCommands T.addCommands
  cases hf : r.firmwareRetract
  · obtain ⟨ext, hext⟩ := Option.isSome_iff_exists.mp (hr hf).1
    obtain ⟨fr, hfr⟩ := Option.isSome_iff_exists.mp (hr hf).2
    have e1 : AxisOk ({ p.e with current := some (cur p.e + ext * dir) } : Axis α) := ⟨rfl, he.2⟩
    have e2 : AxisOk ({ p.e with current := some (cur p.e + ext * dir - ext * dir) } : Axis α) :=
      ⟨rfl, he.2⟩
    simp only [Bool.false_eq_true, if_false, hext, hfr, he.cur_eq, n2l_ok e1, n2l_ok e2, ok_bind,
      pyDiv_ok _ _ he.2, Option.getD_some]
  · rfl

theorem addCommands_pos_id (r : Retraction α) (dir : α) (p : Position α) (he : AxisOk p.e) :
    (T.addCommands r dir p).1 = p := by
  have e : (T.addCommands r dir p).1.e = p.e := by
    unfold T.addCommands
    split
    · rfl
    · exact (congrArg (fun c => ({ p.e with current := some c } : Axis α))
        (add_sub_cancel_right _ _)).trans he.eta
  rw [addCommands_frame, e]

section
omit [LinearOrder α]

theorem WF.of_frame {s s' : FState α} (h : WF s)
    (hf : s' = { s with lastRetraction := s'.lastRetraction })
    (hr : ∀ lr, s'.lastRetraction = some lr → RetrOk lr) : WF s' := by
  rw [hf]; exact ⟨h.pos, h.fru, h.lastPos, hr⟩

theorem WF.of_core {s s' : FState α} (h : WF s)
    (e : s' = { s with exclusionEnabled := s'.exclusionEnabled,
                       excludedRegions := s'.excludedRegions,
                       pendingCommands := s'.pendingCommands, feedRate := s'.feedRate }) : WF s' :=
  e ▸ ⟨h.pos, h.fru, h.lastPos, h.retr⟩

theorem WF.withPos {s : FState α} (h : WF s) {p : Position α} (hp : PosOk p) :
    WF { s with position := p } := ⟨hp, h.fru, h.lastPos, h.retr⟩

theorem addRegion_WF {s s' : FState α} {r : Region α} (h : WF s) (h' : s.addRegion r = .ok s') :
    WF s' :=
  addRegion_eq h' ▸ h.of_core rfl

theorem enterExcludedRegion_WF (cfg : Config) (s : FState α) (h : WF s) :
    WF (T.enterExcludedRegion cfg s).1 := by
  rw [enterExcludedRegion_eq]
  split
  · exact h
  · exact ⟨h.pos, h.fru, fun _ => ⟨s.position, rfl, h.pos⟩, h.retr⟩

theorem applyEZF_WF (s : FState α) (ep fr fz : Option α) (h : WF s) :
    WF (T.applyEZF s ep fr fz) := by
  rw [applyEZF_eq]
  exact ⟨⟨h.pos.x, h.pos.y, setLog_AxisOk h.pos.z fz, setLog_AxisOk h.pos.e ep⟩, h.fru, h.lastPos,
    h.retr⟩

theorem tracked_WF (s : FState α) (ep fr fz : Option α) (xy : List (Option α × Option α))
    (h : WF s) : WF (tracked s ep fr fz xy) :=
  ⟨⟨loopAxis_AxisOk h.pos.x _, loopAxis_AxisOk h.pos.y _, setLog_AxisOk h.pos.z fz,
    setLog_AxisOk h.pos.e ep⟩, h.fru, h.lastPos, h.retr⟩

end

theorem ETouch.frame {s s' : FState α} (h : ETouch s s') (he : AxisOk s.position.e) :
    s' = { s with lastRetraction := s'.lastRetraction } := by
  obtain ⟨p', hp, h⟩ := h
  have e : p' = s.position :=
    hp.elim id fun ⟨r, dir, e⟩ => e.trans (addCommands_pos_id r dir s.position he)
  rw [h, e]

theorem ETouch.eOk {s s' : FState α} (h : ETouch s s') (he : AxisOk s.position.e) :
    AxisOk s'.position.e := h.frame he ▸ he

theorem recordRetraction_retrOk (s : FState α) (r : Retraction α)
    (h : ∀ lr, s.lastRetraction = some lr → RetrOk lr) (hr : RetrOk r) :
    ∀ lr, (T.recordRetraction s r).1.lastRetraction = some lr → RetrOk lr := by
  have stored : ∀ {lr'}, RetrOk lr' →
      ∀ lr, (storeRetraction s r lr').1.lastRetraction = some lr → RetrOk lr := fun h' lr e =>
    Option.some.inj ((storeRetraction_record s r _).symm.trans e) ▸ h'
  refine recordRetraction_cases (motive := fun p => ∀ lr, p.1.lastRetraction = some lr → RetrOk lr)
    s r (fun _ => stored hr) (fun lr0 hl _ _ => stored (combine_retrOk lr0 r (h lr0 hl))) ?_
    (fun _ _ _ _ => h)
  -- an owed recovery is cancelled; a non-firmware record takes the current feed rate
  intro lr0 hl _ lr e
  have h0 := h lr0 hl
  rw [← Option.some.inj e]
  split
  · exact fun hf => ⟨(h0 hf).1, rfl⟩
  · exact h0

theorem recordRetraction_WF (s : FState α) (r : Retraction α) (h : WF s) (hr : RetrOk r) :
    WF (T.recordRetraction s r).1 :=
  h.of_frame ((recordRetraction_touch s r).frame h.pos.e) (recordRetraction_retrOk s r h.retr hr)

theorem recoverIfNeeded_retrOk (s : FState α) (cmd : Cmd α) (b : Bool)
    (h : ∀ lr, s.lastRetraction = some lr → RetrOk lr) :
    ∀ lr, (T.recoverRetractionIfNeeded s cmd b).1.lastRetraction = some lr → RetrOk lr :=
  recoverIfNeeded_cases (motive := fun p => ∀ lr, p.1.lastRetraction = some lr → RetrOk lr)
    s cmd b (fun _ => h)
    (fun _ lr0 hl lr e => by
      rw [← Option.some.inj e]
      cases b <;> exact h lr0 hl)
    (fun _ _ _ _ _ e => nomatch e) (fun _ _ _ _ _ e => nomatch e)

theorem recoverIfNeeded_WF (s : FState α) (cmd : Cmd α) (b : Bool) (h : WF s) :
    WF (T.recoverRetractionIfNeeded s cmd b).1 :=
  h.of_frame ((recoverIfNeeded_touch s cmd b).frame h.pos.e) (recoverIfNeeded_retrOk s cmd b h.retr)

theorem processNonMove_WF (s : FState α) (cmd : Cmd α) (dE : α) (h : WF s) :
    WF (T.processNonMove s cmd dE).1 :=
  processNonMove_cases (motive := fun p => WF p.1) s cmd dE
    (fun _ => ite_both (P := fun p : FState α × List (Out α) => WF p.1)
      (recordRetraction_WF s _ h (newRetr_retrOk cmd _ _))
      (recordRetraction_WF s _ h (newRetr_retrOk cmd _ _)))
    (fun _ => recoverIfNeeded_WF s cmd true h) (fun _ => h)

theorem processExcludedMove_WF (cfg : Config) (s : FState α) (cmd : Cmd α) (dE : α)
    (h : WF s) : WF (T.processExcludedMove cfg s cmd dE).1 := by
  have hw := enterExcludedRegion_WF cfg s h
  rw [processExcludedMove_eq]
  dsimp only
  split
  · exact processNonMove_WF _ cmd dE hw
  · exact hw

theorem exitExcludedRegion_WF (cfg : Config) (s : FState α) (h : WF s) :
    WF (T.exitExcludedRegion cfg s).1 := by
  rw [exitExcludedRegion_fst]
  split
  · exact ⟨h.pos, h.fru, (fun hx => nomatch hx), h.retr⟩
  · exact h

theorem disableExclusion_WF (cfg : Config) (s : FState α) (h : WF s) :
    WF (T.disableExclusion cfg s).1 := by
  rw [disableExclusion_eq]
  split
  · split
    · exact exitExcludedRegion_WF cfg _ (h.of_core rfl)
    · exact h.of_core rfl
  · exact h

theorem recordRetraction_ok (s : FState α) (r : Retraction α) (h : WF s) (hr : RetrOk r) :
    s.recordRetraction r = .ok (T.recordRetraction s r) := by
  unfold FState.recordRetraction T.recordRetraction
  cases hl : s.lastRetraction with
  | none =>
    simp only [Retraction.generateRetractCommands, addCommands_ok r 1 s.position hr h.pos.e,
      ok_bind, apply_ite Except.ok]
  | some lr =>
    simp only [Retraction.generateRetractCommands, addCommands_ok r 1 s.position hr h.pos.e,
      combine_ok lr r (h.retr lr hl) hr, ok_bind, apply_ite Except.ok]

theorem recoverRetraction_ok (s : FState α) (cmd : Cmd α) (lr : Retraction α)
    (he : AxisOk s.position.e) (hlr : RetrOk lr) :
    s.recoverRetraction cmd lr = .ok (T.recoverRetraction s cmd lr) := by
  unfold FState.recoverRetraction T.recoverRetraction
  cases lr.recoverExcluded
  · rfl
  · simp only [if_true, Retraction.generateRecoverCommands,
      addCommands_ok lr (-1) s.position hlr he, ok_bind]

theorem recoverIfNeeded_ok (s : FState α) (cmd : Cmd α) (b : Bool) (h : WF s) :
    s.recoverRetractionIfNeeded cmd b = .ok (T.recoverRetractionIfNeeded s cmd b) := by
  unfold FState.recoverRetractionIfNeeded T.recoverRetractionIfNeeded
  cases hl : s.lastRetraction with
  | none => simp only [apply_ite Except.ok]
  | some lr =>
    dsimp only
    split
    · rfl
    · exact recoverRetraction_ok _ cmd _ h.pos.e (h.retr lr hl)

omit [Field α] [LinearOrder α] in
theorem enterExcludedRegion_ok (cfg : Config) (s : FState α) (hen : s.exclusionEnabled = true) :
    s.enterExcludedRegion cfg = .ok (T.enterExcludedRegion cfg s) := by
  simp only [FState.enterExcludedRegion, T.enterExcludedRegion, hen, Bool.not_true,
    Bool.false_eq_true, if_false, apply_ite Except.ok]
  cases cfg.enteringExcludedRegionGcode <;> rfl

theorem exitCoordinate_ok {a l : Axis α} (ha : AxisOk a) (hl : AxisOk l) :
    exitCoordinate a l = .ok (exitCoord a l) := by
  unfold exitCoordinate exitCoord
  cases a.absoluteMode
  · simp only [Bool.false_eq_true, if_false]
    rw [ha.cur_eq, hl.cur_eq]
    exact pyDiv_ok _ _ ha.2
  · exact n2l_ok ha

theorem exitExcludedRegion_ok (cfg : Config) (s : FState α) (h : WF s) :
    s.exitExcludedRegion cfg = .ok (T.exitExcludedRegion cfg s) := by
  unfold FState.exitExcludedRegion T.exitExcludedRegion
  cases he : s.excluding
  · rfl
  · obtain ⟨lp, hlp, lx, ly, lz, -⟩ := h.lastPos he
    obtain ⟨px, py, pz, pe⟩ := h.pos
    simp only [Bool.not_true, Bool.false_eq_true, if_false, FState.processPendingCommands,
      n2l_ok pe, ok_bind, hlp, pz.cur_eq, lz.cur_eq, pyDiv_ok _ _ h.fru, exitCoordinate_ok pz lz,
      exitCoordinate_ok px lx, exitCoordinate_ok py ly, T.lastPos, Option.getD]

theorem disableExclusion_ok (cfg : Config) (s : FState α) (h : WF s) :
    s.disableExclusion cfg = .ok (T.disableExclusion cfg s) := by
  have h' : WF { s with exclusionEnabled := false } := h.of_core rfl
  simp only [FState.disableExclusion, T.disableExclusion, exitExcludedRegion_ok cfg _ h',
    apply_ite Except.ok]

theorem processNonMove_ok (s : FState α) (cmd : Cmd α) (deltaE : α) (h : WF s) :
    s.processNonMove cmd deltaE = .ok (T.processNonMove s cmd deltaE) := by
  have he : ∀ r, AxisOk (T.recordRetraction s r).1.position.e := fun r =>
    (recordRetraction_touch s r).eOk h.pos.e
  simp only [FState.processNonMove, T.processNonMove,
    recordRetraction_ok s _ h (newRetr_retrOk cmd _ _), recoverIfNeeded_ok s cmd true h,
    ok_bind, n2l_ok (he _), apply_ite Except.ok]

theorem processExcludedMove_ok (cfg : Config) (s : FState α) (cmd : Cmd α) (deltaE : α)
    (h : WF s) (hen : s.exclusionEnabled = true) :
    s.processExcludedMove cfg cmd deltaE = .ok (T.processExcludedMove cfg s cmd deltaE) := by
  unfold FState.processExcludedMove T.processExcludedMove
  cases he : s.excluding
  · simp only [Bool.not_false, if_true, enterExcludedRegion_ok cfg s hen, ok_bind,
      processNonMove_ok _ cmd deltaE (enterExcludedRegion_WF cfg s h), apply_ite Except.ok]
  · simp only [Bool.not_true, Bool.false_eq_true, if_false, pure_eq_ok, ok_bind,
      processNonMove_ok s cmd deltaE h, apply_ite Except.ok]

omit [LinearOrder α] in
theorem applyEZF_ok (s : FState α) (ep fr fz : Option α) (xy : List (Option α × Option α))
    (h : WF s) :
    s.applyEZF ep fr fz xy = .ok (T.applyEZF s ep fr fz, T.deltaEOf s ep, T.isMoveOf fz xy) := by
  have hZ := h.pos.z
  unfold FState.applyEZF
  cases ep with
  | none =>
    cases fz with
    | none => rfl
    | some z => simp only [setLog_ok hZ, pure_eq_ok, ok_bind]; rfl
  | some e =>
    simp only [setLog_ok h.pos.e, ok_bind, h.pos.e.cur_eq, setLog, pure_eq_ok]
    cases fz with
    | none => rfl
    | some z => simp only [setLog_ok hZ, ok_bind]; rfl

theorem nonMoveBody_ok (s1 : FState α) (cmd : Cmd α) (dE pE : α) (hs1 : WF s1) :
    s1.nonMoveBody cmd dE (some pE) = .ok (T.nonMoveBody s1 cmd dE pE) := by
  have he : AxisOk (T.processNonMove s1 cmd dE).1.position.e :=
    (processNonMove_touch s1 cmd dE).eOk hs1.pos.e
  unfold T.nonMoveBody FState.nonMoveBody
  simp only [processNonMove_ok s1 cmd dE hs1, ok_bind]
  cases s1.lastRetraction with
  | none => rfl
  | some lr => simp only [n2lAbs_ok he, ok_bind, pure_eq_ok, apply_ite Except.ok]

section
omit [LinearOrder α]

theorem g92Step_ok (p : Position α) (kv : Char × Option α) (h : PosOk p) :
    ERP.g92Step p kv = .ok (T.g92Step p kv) ∧ PosOk (T.g92Step p kv) := by
  obtain ⟨k, _ | v⟩ := kv
  · exact ⟨rfl, h⟩
  · obtain ⟨hx, hy, hz, he⟩ := h
    refine ⟨?_, ?_⟩
    · simp only [ERP.g92Step, T.g92Step, setLog_ok he, setOffsetPos_ok hx, setOffsetPos_ok hy,
        setOffsetPos_ok hz, ok_bind, apply_ite Except.ok]
    · -- `E` sets the position; `X`, `Y`, `Z` change an offset; any other letter nothing
      exact ite_both ⟨hx, hy, hz, setLog_AxisOk he _⟩ <| ite_both ⟨hx, hy, hz, he⟩ <|
        ite_both ⟨hx, hy, hz, he⟩ <| ite_both ⟨hx, hy, hz, he⟩ ⟨hx, hy, hz, he⟩

theorem m206Step_ok (p : Position α) (kv : Char × Option α) (h : PosOk p) :
    ERP.m206Step p kv = .ok (T.m206Step p kv) ∧ PosOk (T.m206Step p kv) := by
  obtain ⟨k, _ | v⟩ := kv
  · exact ⟨rfl, h⟩
  · obtain ⟨hx, hy, hz, he⟩ := h
    refine ⟨?_, ?_⟩
    · simp only [ERP.m206Step, T.m206Step, setHomeOffset_ok hx, setHomeOffset_ok hy,
        setHomeOffset_ok hz, ok_bind, apply_ite Except.ok]
    · -- `X`, `Y`, `Z` set a home offset and move the axis by it; any other letter nothing
      exact ite_both ⟨⟨rfl, hx.2⟩, hy, hz, he⟩ <| ite_both ⟨hx, ⟨rfl, hy.2⟩, hz, he⟩ <|
        ite_both ⟨hx, hy, ⟨rfl, hz.2⟩, he⟩ ⟨hx, hy, hz, he⟩

theorem handleG28_WF (s : FState α) (cmd : Cmd α) (h : WF s) : WF (handleG28 s cmd) := by
  have home : ∀ {a : Axis α}, AxisOk a → AxisOk a.setHome := fun ha => ⟨rfl, ha.2⟩
  rw [handleG28_eq]
  exact h.withPos ⟨ite_both (home h.pos.x) h.pos.x, ite_both (home h.pos.y) h.pos.y,
    ite_both (home h.pos.z) h.pos.z, h.pos.e⟩

theorem setUnitMultiplier_WF (s : FState α) (u : α) (hu : u ≠ 0) (h : WF s) :
    WF (s.setUnitMultiplier u) := by
  obtain ⟨hx, hy, hz, he⟩ := h.pos
  exact ⟨⟨⟨hx.1, hu⟩, ⟨hy.1, hu⟩, ⟨hz.1, hu⟩, ⟨he.1, hu⟩⟩, hu, h.lastPos, h.retr⟩

theorem setAbsoluteMode_WF (cfg : Config) (s : FState α) (b : Bool) (h : WF s) :
    WF (s.setAbsoluteMode cfg b) := by
  rw [setAbsoluteMode_eq]
  exact h.withPos ⟨h.pos.x, h.pos.y, h.pos.z, ite_both h.pos.e h.pos.e⟩

theorem processExtendedGcode_WF (cfg : Config) (s : FState α) (cmd : Cmd α) (g : String)
    (h : WF s) : WF (s.processExtendedGcode cfg cmd g).1 :=
  processExtendedGcode_frame cfg s cmd g ▸ h.of_core rfl

end

theorem foldE_ok {σ β : Type} (P : σ → Prop) (f : σ → β → Except PyErr σ) (g : σ → β → σ)
    (hf : ∀ s b, P s → f s b = .ok (g s b) ∧ P (g s b)) :
    ∀ (l : List β) (s : σ), P s → foldE f s l = .ok (l.foldl g s) ∧ P (l.foldl g s) := by
  intro l
  induction l with
  | nil => intro s hs; exact ⟨rfl, hs⟩
  | cons b bs ih =>
    intro s hs
    obtain ⟨h1, h2⟩ := hf s b hs
    simp only [foldE, h1, ok_bind, List.foldl_cons]
    exact ih _ h2

theorem handleG10_ok (s : FState α) (cmd : Cmd α) (h : WF s) :
    ERP.handleG10 s cmd = .ok (T.handleG10 s cmd) := by
  unfold ERP.handleG10 T.handleG10
  split
  · rfl
  · rw [recordRetraction_ok s _ h (fwRetr_retrOk cmd)]; exact toResult_ok _ _

theorem handleG11_ok (s : FState α) (cmd : Cmd α) (h : WF s) :
    ERP.handleG11 s cmd = .ok (T.handleG11 s cmd) := by
  unfold ERP.handleG11 T.handleG11
  rw [recoverIfNeeded_ok s cmd true h]; exact toResult_ok _ _

theorem atLoop_ok (cfg : Config) (params : Text) (entries : List AtEntry) :
    ∀ (s : FState α) (handled : Bool) (sent : List (Out α)), WF s →
      ERP.atLoop cfg params entries s handled sent =
        .ok (T.atLoop cfg params entries s handled sent) ∧
      WF (T.atLoop cfg params entries s handled sent).1 := by
  induction entries with
  | nil => intro s hd sent h; exact ⟨rfl, h⟩
  | cons e rest ih =>
    intro s hd sent h
    unfold ERP.atLoop T.atLoop
    split
    · cases e.action with
      | enable => exact ih _ _ _ (h.of_core rfl)
      | disable =>
        simp only [disableExclusion_ok cfg s h, ok_bind]
        exact ih _ _ _ (disableExclusion_WF cfg s h)
      | unsupported => exact ih _ _ _ h
    · exact ih _ _ _ h

omit [Field α] [LinearOrder α] in
theorem processExtendedGcode_shape (cfg : Config) (s : FState α) (cmd : Cmd α) (g : String) :
    Result.Shape (s.processExtendedGcode cfg cmd g).2 := by
  rcases processExtendedGcode_cases cfg s cmd g with e | ⟨-, m, e⟩ <;> rw [e] <;> trivial

section
variable [MathOps α]

theorem containsPointO_ok (r : Region α) (x y : α) :
    r.containsPointO (some x) (some y) = .ok (r.containsPoint x y) := by
  cases r with
  | rect i x1 y1 x2 y2 =>
    simp only [Region.containsPointO, Region.containsPoint]
    cases decide (x1 ≤ x) && decide (x ≤ x2) <;> rfl
  | circle i cx cy rr => rfl

theorem anyRegionContains_ok (rs : List (Region α)) (x y : α) :
    anyRegionContains rs (some x) (some y) = .ok (anyContains rs x y) := by
  induction rs with
  | nil => rfl
  | cons r rest ih =>
    simp only [anyRegionContains, containsPointO_ok, ok_bind, ih, anyContains, List.any_cons]
    cases r.containsPoint x y <;> rfl

theorem isPointExcluded_ok (s : FState α) (x y : α) :
    s.isPointExcluded (some x) (some y) = .ok (T.isPointExcluded s x y) := by
  simp only [FState.isPointExcluded, T.isPointExcluded, anyRegionContains_ok]
  cases s.exclusionEnabled <;> rfl

theorem isAnyLoop_ok (pairs : List (Option α × Option α)) :
    ∀ (s : FState α) (any : Bool), AxisOk s.position.x → AxisOk s.position.y →
      ERP.isAnyLoop s pairs any = .ok (T.isAnyLoop s pairs any) := by
  induction pairs with
  | nil => intro s any _ _; rfl
  | cons p rest ih =>
    intro s any hx hy
    obtain ⟨px, py⟩ := p
    have hx' := setLog_AxisOk hx px
    have hy' := setLog_AxisOk hy py
    simp only [ERP.isAnyLoop, T.isAnyLoop, setLog_ok hx, setLog_ok hy, ok_bind, hx'.cur_eq,
      hy'.cur_eq, isPointExcluded_ok]
    cases any <;> exact ih _ _ hx' hy'

theorem isAnyLoop_WF (pairs : List (Option α × Option α)) (s : FState α) (any : Bool) (h : WF s) :
    WF (T.isAnyLoop s pairs any).1 ∧
    (T.isAnyLoop s pairs any).1.exclusionEnabled = s.exclusionEnabled := by
  rw [isAnyLoop_fst]
  exact ⟨h.withPos ⟨loopAxis_AxisOk h.pos.x _, loopAxis_AxisOk h.pos.y _, h.pos.z, h.pos.e⟩, rfl⟩

theorem plm_WF (cfg : Config) (s : FState α) (cmd : Cmd α) (ep fr fz : Option α)
    (xy : List (Option α × Option α)) (h : WF s) :
    WF (T.processLinearMoves cfg s cmd ep fr fz xy).1 := by
  have ht := tracked_WF s ep fr fz xy h
  refine (plm_cases (motive := fun r => WF r.1) cfg s cmd ep fr fz xy (fun _ => ?_) (fun _ _ => ?_)
    (fun _ _ _ => exitExcludedRegion_WF cfg _ ht) (fun _ _ _ _ => ?_) (fun _ _ _ _ => ht)).elim
    fun r hr => by rw [hr.1, toResult_fst]; exact hr.2
  · rw [nonMoveBody_fst]
    exact processNonMove_WF _ cmd _ ht
  · -- an episode that opens remembers the (well-formed) position the command started from
    have hw := processExcludedMove_WF cfg _ cmd (T.deltaEOf s ep) ht
    exact iteInduction (fun _ => ⟨hw.pos, hw.fru, fun _ => ⟨s.position, rfl, h.pos⟩, hw.retr⟩) fun _ => hw
  · rw [recoverBranch_fst]
    exact recoverIfNeeded_WF _ cmd false ht

theorem plm_pos (cfg : Config) (s : FState α) (cmd : Cmd α) (ep fr fz : Option α)
    (xy : List (Option α × Option α)) (he : AxisOk s.position.e) :
    (T.processLinearMoves cfg s cmd ep fr fz xy).1.position = movedPos s.position ep fz xy := by
  rw [(plm_touch cfg s cmd ep fr fz xy).frame (setLog_AxisOk he ep)]; rfl

theorem moveBody_ok (cfg : Config) (s1 : FState α) (cmd : Cmd α) (dE pE : α) (start : Position α)
    (xy : List (Option α × Option α)) (hs1 : WF s1) :
    s1.moveBody cfg cmd dE (some pE) start xy = .ok (T.moveBody cfg s1 cmd dE pE start xy) := by
  unfold T.moveBody FState.moveBody FState.isAnyPointExcluded
  rw [isAnyLoop_ok xy s1 false hs1.pos.x hs1.pos.y]
  obtain ⟨hw2, hen2⟩ := isAnyLoop_WF xy s1 false hs1
  have hen : (T.isAnyLoop s1 xy false).2 = true → s1.exclusionEnabled = true := fun h => by
    rw [isAnyLoop_snd, Bool.false_or, Bool.and_eq_true] at h; exact h.1
  generalize T.isAnyLoop s1 xy false = r at *
  have he3 : AxisOk (T.recoverRetractionIfNeeded r.1 cmd false).1.position.e :=
    (recoverIfNeeded_touch r.1 cmd false).eOk hw2.pos.e
  simp only [ok_bind, apply_ite Except.ok]
  -- an excluded point can only have been found while exclusion is enabled
  refine ite_congr rfl (fun ha => ?_) (fun _ => ?_)
  · simp only [processExcludedMove_ok cfg r.1 cmd dE hw2 (hen2.trans (hen ha)), ok_bind,
      pure_eq_ok]
  · simp only [exitExcludedRegion_ok cfg r.1 hw2, recoverIfNeeded_ok r.1 cmd false hw2,
      ok_bind]
    refine ite_congr rfl (fun _ => rfl) (fun _ => ite_congr rfl (fun _ => ?_) (fun _ => rfl))
    cases r.1.lastRetraction with
    | none => rfl
    | some lr => simp only [n2lAbs_ok he3, ok_bind, pure_eq_ok, apply_ite Except.ok]

theorem plm_ok (cfg : Config) (s : FState α) (cmd : Cmd α) (ep fr fz : Option α)
    (xy : List (Option α × Option α)) (h : WF s) :
    s.processLinearMoves cfg cmd ep fr fz xy = .ok (T.processLinearMoves cfg s cmd ep fr fz xy) := by
  have hs1 := applyEZF_WF s ep fr fz h
  unfold FState.processLinearMoves T.processLinearMoves
  simp only [applyEZF_ok s ep fr fz xy h, ok_bind, h.pos.e.cur_eq]
  split
  · rw [nonMoveBody_ok _ cmd _ _ hs1]; exact toResult_ok _ _
  · rw [moveBody_ok cfg _ cmd _ _ _ xy hs1]; exact toResult_ok _ _

theorem handleG0_ok (cfg : Config) (s : FState α) (cmd : Cmd α) (h : WF s) :
    ERP.handleG0 cfg s cmd = .ok (T.handleG0 cfg s cmd) :=
  plm_ok cfg s cmd _ _ _ _ h

end

section
variable [IsStrictOrderedRing α] [MathOps α] [MathSpec α]

theorem MathOps.ofNat_ne_zero {n : Nat} (h : 1 ≤ n) : (MathOps.ofNat n : α) ≠ 0 := by
  rw [MathSpec.ofNat_eq]
  exact Nat.cast_ne_zero.mpr (Nat.ne_of_gt h)

theorem planArc_ok' (p : Position α) (endX endY i j ni nj : α) (cw : Bool) (hx : AxisOk p.x) (hy : AxisOk p.y)
    (hi : ni = -i) (hj : nj = -j) :
    ERP.planArc p endX endY i j ni nj cw = .ok (T.planArc p endX endY i j cw) := by
  subst hi hj
  unfold ERP.planArc T.planArc
  simp only [n2l_ok hx, n2l_ok hy, ok_bind]
  rw [pyDiv_ok _ _ (MathOps.ofNat_ne_zero (le_max_left 1 _))]
  rfl

omit [MathOps α] [MathSpec α] in
theorem pyAbs_eq (x : α) : pyAbs x = |x| := by
  unfold pyAbs
  split
  · rename_i h; rw [abs_of_neg h]
  · rename_i h; rw [abs_of_nonneg (not_lt.mp h)]

theorem computeArcCenterOffsets_ok (p : Position α) (endX endY radius : α) (cw : Bool)
    (hx : AxisOk p.x) (hy : AxisOk p.y) :
    ERP.computeArcCenterOffsets p endX endY radius cw =
      .ok (T.computeArcCenterOffsets p endX endY radius cw) := by
  unfold ERP.computeArcCenterOffsets T.computeArcCenterOffsets
  simp only [n2l_ok hx, n2l_ok hy, ok_bind, apply_ite Except.ok]
  refine ite_congr rfl (fun hc => ?_) (fun _ => rfl)
  refine ite_congr rfl (fun hh => ?_) (fun _ => rfl)
  -- the end point differs from the start, so the chord is not zero …
  have hd : (MathOps.hypot (endX - n2l p.x) (endY - n2l p.y) : α) ≠ 0 := by
    rw [Ne, hypot_eq_zero_iff, sub_eq_zero, sub_eq_zero]
    rintro ⟨h1, h2⟩
    simp only [h1, h2, beq_self_eq_true, Bool.not_true, Bool.or_self, Bool.and_false,
      Bool.false_eq_true] at hc
  -- … and half of it is at most `|radius|`, so the root is taken of a non-negative number
  have hs : ¬ (radius * radius - MathOps.hypot (endX - n2l p.x) (endY - n2l p.y) / 2 *
      (MathOps.hypot (endX - n2l p.x) (endY - n2l p.y) / 2) < 0) := by
    rw [not_lt, sub_nonneg]
    exact mul_self_le_of_le_abs (div_nonneg (MathSpec.hypot_nonneg _ _) zero_le_two)
      (pyAbs_eq radius ▸ hh)
  rw [if_neg hs]
  simp only [pyDiv_ok _ _ hd, ok_bind]

theorem handleG2_ok (cfg : Config) (s : FState α) (cmd : Cmd α) (cw : Bool) (h : WF s) :
    ERP.handleG2 cfg s cmd cw = .ok (T.handleG2 cfg s cmd cw) := by
  obtain ⟨hx, hy, hz, -⟩ := h.pos
  unfold ERP.handleG2 T.handleG2
  simp only [n2l_ok hx, n2l_ok hy, n2l_ok hz, ok_bind]
  cases lastValue cmd.words 'R' with
  | none =>
    simp only [pure_eq_ok, ok_bind]
    -- an omitted `I`/`J` is negated as the integer `0`
    rw [planArc_ok' _ _ _ _ _ _ _ _ hx hy
      (by cases lastValue cmd.words 'I' <;> simp only [Option.getD, neg_zero])
      (by cases lastValue cmd.words 'J' <;> simp only [Option.getD, neg_zero])]
    simp only [ok_bind, plm_ok cfg s cmd _ _ _ _ h, apply_ite Except.ok]
  | some r =>
    simp only [computeArcCenterOffsets_ok _ _ _ _ _ hx hy, pure_eq_ok, ok_bind,
      planArc_ok' _ _ _ _ _ _ _ _ hx hy rfl rfl, plm_ok cfg s cmd _ _ _ _ h,
      apply_ite Except.ok]

/-- **Refinement / totality.** On a well-formed state `handleGcode` does not raise: it returns
`.ok` of the total model's step, the new state is well-formed again, and the result has the shape
the hook protocol requires. -/
theorem handleGcode_ok (cfg : Config) (inch : α) (hinch : inch ≠ 0) (s : FState α) (g : String)
    (cmd : Cmd α) (h : WF s) :
    ERP.handleGcode cfg inch s g cmd = .ok (T.handleGcode cfg inch s g cmd) ∧
    WF (T.handleGcode cfg inch s g cmd).1 ∧ Result.Shape (T.handleGcode cfg inch s g cmd).2 := by
  have lin : ∀ ep fr fz xy, WF (T.processLinearMoves cfg s cmd ep fr fz xy).1 ∧
      Result.Shape (T.processLinearMoves cfg s cmd ep fr fz xy).2 :=
    fun ep fr fz xy => ⟨plm_WF cfg s cmd ep fr fz xy h, toResult_shape _⟩
  have arc := fun cw => handleG2_cases (motive := fun r => WF r.1 ∧ Result.Shape r.2) cfg s cmd cw
    ⟨h, trivial⟩ lin
  have g10 := handleG10_cases (motive := fun r => WF r.1 ∧ Result.Shape r.2) s cmd
    ⟨h, trivial⟩
    ⟨toResult_fst _ ▸ recordRetraction_WF s _ h (fwRetr_retrOk cmd), toResult_shape _⟩
  have g11 : WF (T.handleG11 s cmd).1 ∧ Result.Shape (T.handleG11 s cmd).2 :=
    ⟨toResult_fst _ ▸ recoverIfNeeded_WF s cmd true h, toResult_shape _⟩
  unfold ERP.handleGcode T.handleGcode
  generalize Code.ofString g = c
  cases c with
  | G0 => exact ⟨handleG0_ok cfg s cmd h, lin _ _ _ _⟩
  | G1 => exact ⟨handleG0_ok cfg s cmd h, lin _ _ _ _⟩
  | G2 => exact ⟨handleG2_ok cfg s cmd true h, arc true⟩
  | G3 => exact ⟨handleG2_ok cfg s cmd false h, arc false⟩
  | G10 => exact ⟨handleG10_ok s cmd h, g10⟩
  | G11 => exact ⟨handleG11_ok s cmd h, g11⟩
  | G20 => exact ⟨rfl, setUnitMultiplier_WF s inch hinch h, trivial⟩
  | G21 => exact ⟨rfl, setUnitMultiplier_WF s 1 one_ne_zero h, trivial⟩
  | G28 => exact ⟨rfl, handleG28_WF s cmd h, trivial⟩
  | G90 => exact ⟨rfl, setAbsoluteMode_WF cfg s true h, trivial⟩
  | G91 => exact ⟨rfl, setAbsoluteMode_WF cfg s false h, trivial⟩
  | G92 =>
    obtain ⟨h1, h2⟩ := foldE_ok PosOk ERP.g92Step T.g92Step g92Step_ok cmd.words s.position h.pos
    exact ⟨by simp only [h1, ok_bind], h.withPos h2, trivial⟩
  | M206 =>
    obtain ⟨h1, h2⟩ := foldE_ok PosOk ERP.m206Step T.m206Step m206Step_ok cmd.words s.position h.pos
    exact ⟨by simp only [h1, ok_bind], h.withPos h2, trivial⟩
  | other n =>
    exact ⟨rfl, processExtendedGcode_WF cfg s cmd g h, processExtendedGcode_shape cfg s cmd g⟩

set_option linter.unusedSectionVars false in
theorem handleAtCommand_ok (cfg : Config) (s : FState α) (streaming : Bool) (cmd : String)
    (params : Text) (h : WF s) :
    ERP.handleAtCommand cfg s streaming cmd params = .ok (T.handleAtCommand cfg s streaming cmd params) ∧
    WF (T.handleAtCommand cfg s streaming cmd params).1 := by
  unfold ERP.handleAtCommand T.handleAtCommand
  split
  · exact ⟨rfl, h⟩
  · exact atLoop_ok cfg params _ s false [] h

end

-- statements kept with the binders they were audited with
section
variable [IsStrictOrderedRing α] [MathOps α]

set_option linter.unusedSectionVars false in
theorem l2n_ok_abs (a : Axis α) (v : α) :
    a.logicalToNative v (some true) = .ok (v * a.unitMultiplier + (a.offset + a.homeOffset)) :=
  rfl

set_option linter.unusedSectionVars false in
theorem PosOk.withE {p : Position α} (h : PosOk p) {e : Axis α} (he : AxisOk e) :
    PosOk { p with e := e } := ⟨h.1, h.2.1, h.2.2.1, he⟩

set_option linter.unusedSectionVars false in
theorem addCommands_fst_frame (r : Retraction α) (dir : α) (p : Position α) :
    (T.addCommands r dir p).1.x = p.x ∧ (T.addCommands r dir p).1.y = p.y ∧
    (T.addCommands r dir p).1.z = p.z := by
  rw [addCommands_frame]; exact ⟨rfl, rfl, rfl⟩

end

end ERP
