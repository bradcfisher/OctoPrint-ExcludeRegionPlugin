import ERP.Gen.Arith
import ERP.Total
/-! # The arithmetic of the total model *is* the source's

`Gen/Arith.lean` holds, statement by statement, the Python functions that compute numbers: the
conversions and offsets of `AxisPosition`, `_exitCoordinate` and what `exitExcludedRegion` appends,
`combine`, the numbers of `_addCommands`, `computeArcCenterOffsets`, `planArc` (set-up and loop
body).  Each `gen_*` theorem states that the function of `ERP/Total.lean` about which C03–C06, C08
and C16 are proved computes those statements; K-D15 and K-D10 live in them.  `None` arguments are
the flags `valueIsNone` / `absIsNone`; where the source does not read a parameter on the path the
model takes, the theorem holds for every value of it.

`Out.shape`, `exitTail`, `exit_outputs` and `exitTail_mem` are about the total model alone; they
stand here because `gen_exitCommands` is stated against them. -/
namespace ERP
set_option linter.unusedSectionVars false
variable {α : Type} [Add α] [Sub α] [Mul α] [Div α] [Neg α] [LT α] [LE α] [BEq α]
  [OfNat α 0] [OfNat α 1] [OfNat α 2] [DecidableLT α] [DecidableLE α] [MathOps α]

/-- `logicalToNative(v)`; `b` is the `absoluteMode` argument, not read when `absIsNone` -/
theorem gen_l2n (a : Axis α) (v : α) (b : Bool) :
    T.l2n a v = Gen.logicalToNative (T.cur a) a.homeOffset a.offset a.unitMultiplier a.absoluteMode v false b true := by
  unfold T.l2n Gen.logicalToNative
  cases a.absoluteMode <;> rfl

/-- `nativeToLogical()`; `v`, `b`, `b'` are not read when `valueIsNone` -/
theorem gen_n2l (a : Axis α) (v : α) (b b' : Bool) :
    T.n2l a = Gen.nativeToLogical (T.cur a) a.homeOffset a.offset a.unitMultiplier a.absoluteMode v true b b' := rfl

theorem gen_n2lAbs (a : Axis α) (v : α) :
    T.n2lAbs a v = Gen.nativeToLogical (T.cur a) a.homeOffset a.offset a.unitMultiplier a.absoluteMode v false true false := rfl

/-- `setLogicalOffsetPosition(v)` (G92 X/Y/Z) -/
theorem gen_setOffsetPos (a : Axis α) (v : α) :
    T.setOffsetPos a v = { a with offset :=
      Gen.setLogicalOffsetPosition (T.cur a) a.homeOffset a.offset a.unitMultiplier a.absoluteMode v } := by
  unfold T.setOffsetPos Gen.setLogicalOffsetPosition
  rw [gen_l2n a v true]

/-- `setHomeOffset(v)` (M206) -/
theorem gen_setHomeOffset (a : Axis α) (v : α) :
    T.setHomeOffset a v = { a with
      homeOffset := (Gen.setHomeOffset (T.cur a) a.homeOffset a.offset a.unitMultiplier a.absoluteMode v).1,
      current := some (Gen.setHomeOffset (T.cur a) a.homeOffset a.offset a.unitMultiplier a.absoluteMode v).2 } := rfl

/-- `_exitCoordinate(axis, lastAxis)`: the coordinate of the re-positioning moves -/
theorem gen_exitCoord (axis lastAxis : Axis α) :
    T.exitCoord axis lastAxis =
      Gen.exitCoordinate (T.cur axis) axis.homeOffset axis.offset axis.unitMultiplier axis.absoluteMode
        (T.cur lastAxis) := by
  unfold T.exitCoord Gen.exitCoordinate
  cases axis.absoluteMode <;> rfl

/-- `RetractionState.combine(other)`: the combined retraction length -/
theorem gen_combine (r o : Retraction α) :
    (T.combine r o).extrusionAmount.getD 0 =
      Gen.combine r.allowCombine r.firmwareRetract o.firmwareRetract
        (r.extrusionAmount.getD 0) (o.extrusionAmount.getD 0) := by
  unfold T.combine Gen.combine
  cases r.allowCombine <;> cases r.firmwareRetract <;> cases o.firmwareRetract <;> rfl

/-- `Gen.combine` returns only the amount; the other four fields are untouched -/
theorem gen_combine_frame (r o : Retraction α) :
    (T.combine r o).allowCombine = r.allowCombine ∧ (T.combine r o).firmwareRetract = r.firmwareRetract ∧
    (T.combine r o).feedRate = r.feedRate ∧ (T.combine r o).recoverExcluded = r.recoverExcluded := by
  unfold T.combine
  split <;> exact ⟨rfl, rfl, rfl, rfl⟩

/-- `RetractionState._addCommands` (non-firmware): the synthesised `G92 E…` / `G1 F… E…` carry the
numbers the source computes, and the extruder is left where the source leaves it -/
theorem gen_addCommands (r : Retraction α) (dir : α) (p : Position α) (h : r.firmwareRetract = false) :
    (T.addCommands r dir p).2 =
      (let t := Gen.addCommandsValues (r.extrusionAmount.getD 0) (r.feedRate.getD 0) dir
          (T.cur p.e) p.e.homeOffset p.e.offset p.e.unitMultiplier p.e.absoluteMode
       [Out.g92e t.1, Out.g1fe t.2.2.1 t.2.1]) ∧
    T.cur (T.addCommands r dir p).1.e =
      (Gen.addCommandsValues (r.extrusionAmount.getD 0) (r.feedRate.getD 0) dir
          (T.cur p.e) p.e.homeOffset p.e.offset p.e.unitMultiplier p.e.absoluteMode).2.2.2 := by
  unfold T.addCommands
  simp only [h, Bool.false_eq_true, if_false]
  exact ⟨rfl, rfl⟩

/-- the two templates of `_addCommands`; that `Out.shape` gives the same strings to `.g92e` and
`.g1fe` is compared by eye -/
theorem addCommands_templates : Gen.addCommandsTemplates = ["G92 E{e}", "G1 F{f} E{e}"] := rfl

/-- the command template and the numbers (in template order) of a synthesised command -/
def Out.shape : Out α → Option (String × List α)
  | .g92e e => some ("G92 E{e}", [e])
  | .g0z f z => some ("G0 F{f} Z{z}", [f, z])
  | .g0xy f x y => some ("G0 F{f} X{x} Y{y}", [f, x, y])
  | .g1fe f e => some ("G1 F{f} E{e}", [f, e])
  | _ => none

/-- the re-synchronisation commands at the end of an episode, as the model emits them -/
def exitTail (s : FState α) : List (Out α) :=
  let f := s.feedRate / s.feedRateUnitMultiplier
  let moveZ : Out α := .g0z f (T.exitCoord s.position.z (T.lastPos s).z)
  [Out.g92e (T.n2l s.position.e)] ++
    (if T.cur (T.lastPos s).z < T.cur s.position.z then [moveZ] else []) ++
    [Out.g0xy f (T.exitCoord s.position.x (T.lastPos s).x) (T.exitCoord s.position.y (T.lastPos s).y)] ++
    (if T.cur s.position.z < T.cur (T.lastPos s).z then [moveZ] else [])

theorem exit_outputs (cfg : Config) (s : FState α) (h : s.excluding = true) :
    (T.exitExcludedRegion cfg s).2 =
      (FState.processPendingCommands cfg { s with excluding := false }).2 ++ exitTail s := by
  unfold T.exitExcludedRegion exitTail
  rw [if_neg (by rw [h]; exact Bool.false_ne_true)]
  simp only [FState.processPendingCommands, T.lastPos]
  by_cases h1 : T.cur (s.lastPosition.getD s.position).z < T.cur s.position.z <;>
  by_cases h2 : T.cur s.position.z < T.cur (s.lastPosition.getD s.position).z <;>
  simp only [h1, h2, if_true, if_false, List.append_assoc, List.append_nil, List.cons_append,
    List.nil_append]

/-- `exitExcludedRegion`: after the pending commands and the exit script, exactly the commands the
source appends — its templates, its numbers in its order, under its conditions -/
theorem gen_exitCommands (s : FState α) :
    (exitTail s).map Out.shape =
      (Gen.exitCommands (T.n2l s.position.e)
        (T.exitCoord s.position.z (T.lastPos s).z) (T.exitCoord s.position.x (T.lastPos s).x)
        (T.exitCoord s.position.y (T.lastPos s).y) (T.cur s.position.z) (T.cur (T.lastPos s).z)
        s.feedRate s.feedRateUnitMultiplier).map some := by
  unfold exitTail Gen.exitCommands
  by_cases h1 : T.cur (T.lastPos s).z < T.cur s.position.z <;>
  by_cases h2 : T.cur s.position.z < T.cur (T.lastPos s).z <;>
  simp only [h1, h2, if_true, if_false, List.append_nil, List.cons_append, List.nil_append,
    List.map_cons, List.map_nil, Out.shape, GT.gt]

theorem exitTail_mem {s : FState α} {o : Out α} (h : o ∈ exitTail s) :
    (∃ e, o = .g92e e) ∨ (∃ f z, o = .g0z f z) ∨ ∃ f x y, o = .g0xy f x y := by
  unfold exitTail at h
  simp only [List.mem_append, List.mem_singleton] at h
  rcases h with ((h | h) | h) | h
  · exact .inl ⟨_, h⟩
  · split at h
    · exact .inr (.inl ⟨_, _, List.mem_singleton.mp h⟩)
    · cases h
  · exact .inr (.inr ⟨_, _, _, h⟩)
  · split at h
    · exact .inr (.inl ⟨_, _, List.mem_singleton.mp h⟩)
    · cases h

theorem gen_arcCenterOffsets (p : Position α) (endX endY radius : α) (cw : Bool) :
    T.computeArcCenterOffsets p endX endY radius cw =
      Gen.arcCenterOffsets (T.n2l p.x) (T.n2l p.y) endX endY radius cw := rfl

/-- `planArc`: the model's sampling is the source's set-up followed by `numSegments − 1` iterations
of the source's loop body and the commanded end point.  The set-up returns `(centerX, centerY,
radius, angularTravel, numSegments, angle, angularIncrement)`. -/
theorem gen_planArc (p : Position α) (endX endY i j : α) (cw : Bool) :
    T.planArc p endX endY i j cw =
      (let t := Gen.planArcSetup (T.n2l p.x) (T.n2l p.y) endX endY i j cw
       ERP.arcLoop t.1 t.2.1 t.2.2.1 t.2.2.2.2.2.2 (t.2.2.2.2.1 - 1) t.2.2.2.2.2.1 []) ++ [(endX, endY)] := rfl

theorem gen_planArc_travel (p : Position α) (endX endY i j : α) (cw : Bool) :
    T.angularTravel (T.n2l p.x) (T.n2l p.y) endX endY i j cw =
      (Gen.planArcSetup (T.n2l p.x) (T.n2l p.y) endX endY i j cw).2.2.2.1 := rfl

theorem gen_arcLoop_step (cx cy r inc angle : α) (n : Nat) (acc : List (α × α)) :
    ERP.arcLoop cx cy r inc (n + 1) angle acc =
      ERP.arcLoop cx cy r inc n (Gen.planArcStep cx cy r inc angle).1
        (acc ++ [((Gen.planArcStep cx cy r inc angle).2.1, (Gen.planArcStep cx cy r inc angle).2.2)]) := rfl

end ERP
