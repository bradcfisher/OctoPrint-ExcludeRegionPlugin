import ERP.Lemmas.PluginSpec
import ERP.Lemmas.GenTies
/-! # C11 — Filtering is gated by the print lifecycle

The print flag follows the reference automaton `specActiveOp` through every operation
(`active_matches_lifecycle`); while it is off the three hooks return what they are given
(`inactive_*`); the region list is emptied by a file selection and, if the setting says so, by the
end of a print. -/
namespace ERP.C11

variable {α : Type} [Add α] [Sub α] [Mul α] [Div α] [Neg α] [LT α] [LE α] [BEq α]
  [OfNat α 0] [OfNat α 1] [OfNat α 2] [DecidableLT α] [DecidableLE α] [MathOps α] [OfDecimal α]

/-- The event sets of `on_event` in the source are the ones the model dispatches on (the generated
constant is re-read from /repo on every run). -/
theorem event_sets_match_source :
    Gen.onEventBranches = [["FILE_SELECTED"], ["SETTINGS_UPDATED"], ["PRINT_STARTED"],
      ["PRINT_DONE", "PRINT_FAILED", "PRINT_CANCELLING", "PRINT_CANCELLED", "ERROR"]] := rfl

/-- the model's end-of-print events are the five names of the fourth branch (the literal above) -/
theorem endsPrint_iff (n : String) :
    (Event.ofName n).endsPrint = true ↔
      n ∈ ["PRINT_DONE", "PRINT_FAILED", "PRINT_CANCELLING", "PRINT_CANCELLED", "ERROR"] := by
  unfold Event.ofName
  split <;> simp_all [Event.endsPrint]

/-- While no print is active, a G-code passing through the queuing hook is neither altered nor
tracked. -/
theorem inactive_gcode (inch : α) (p : Plugin α) (cmd : Text) (g : Option Text)
    (h : p.activePrintJob = false) :
    p.step inch (.gcode cmd g) = (p, .result .none) := by
  cases g with
  | none => rfl
  | some g =>
    simp only [Plugin.step, Plugin.handleGcodeQueuing, h, Bool.and_false, Bool.false_eq_true,
      if_false]

/-- While no print is active, @-commands have no effect and send nothing. -/
theorem inactive_at (inch : α) (p : Plugin α) (st : Bool) (cmd : String) (ps : Text)
    (h : p.activePrintJob = false) :
    p.step inch (.atCmd st cmd ps) = (p, .sent []) := by
  simp only [Plugin.step, Plugin.handleAtCommandQueuing, h, Bool.false_eq_true, if_false]

/-- While no print is active, the script hook contributes nothing. -/
theorem inactive_script (inch : α) (p : Plugin α) (ty nm : String) (h : p.activePrintJob = false) :
    p.step inch (.script ty nm) = (p, .scriptPrefix none) := by
  have : p.handleScriptHook ty nm = .ok (p, none) := by
    unfold Plugin.handleScriptHook
    rw [h, Bool.false_and, if_neg Bool.false_ne_true]
    split <;> rfl
  simp only [Plugin.step, this]

theorem step_active (inch : α) (p : Plugin α) (op : POp α) :
    (p.step inch op).1.activePrintJob = specActiveOp p.activePrintJob op :=
  congrArg (·.1.activePrintJob) (step_eq inch p p.notifications op)

/-- **Lifecycle.** After any interleaving of events, hook invocations, API calls and settings
saves, the plugin considers a print active exactly when the reference automaton does. -/
theorem active_matches_lifecycle (inch : α) (ops : List (POp α)) :
    ∀ p : Plugin α, (Plugin.run inch p ops).1.activePrintJob = ops.foldl specActiveOp p.activePrintJob := by
  induction ops with
  | nil => intro p; rfl
  | cons op rest ih =>
    intro p
    simp only [Plugin.run, List.foldl_cons]
    rw [ih, step_active]

/-- Selecting a file removes all regions. -/
theorem fileSelected_clears (inch : α) (p : Plugin α) :
    (p.step inch (.event .fileSelected)).1.st.excludedRegions = [] := rfl

/-- The end of a print removes the regions exactly when the clear-after-print setting is on. -/
theorem printEnd_regions (inch : α) (p : Plugin α) (e : Event) (he : e.endsPrint = true) :
    (p.step inch (.event e)).1.st.excludedRegions =
      if p.clearRegionsAfterPrintFinishes then [] else p.st.excludedRegions := by
  rw [Plugin.step, onEvent_of_endsPrint p he]
  split <;> rfl

/-- Pause, resume and every other event change nothing. -/
theorem other_event_noop (inch : α) (p : Plugin α) (n : String) :
    p.step inch (.event (.other n)) = (p, .unit) := rfl

/-- print-started keeps the regions -/
theorem printStarted_keeps_regions (inch : α) (p : Plugin α) :
    (p.step inch (.event .printStarted)).1.st.excludedRegions = p.st.excludedRegions := rfl

end ERP.C11
