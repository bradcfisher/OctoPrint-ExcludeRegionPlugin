import Mathlib.Data.List.Induction
import ERP.Lemmas.StepInv
import ERP.Spec.Reader
-- a tie, not for its lemmas: a change of the translated source breaks it, and with it this module
import ERP.Lemmas.GenTies
/-! # C19 — Parameter extraction matches the RS274/Marlin reading

The tokenizer half, for *every* text: the letter items `parameterItems` yields — through the
backtracking matcher on `REGEX_PARAMETER_OR_STR` as regenerated from the source (`Rx.scan_eq`) — are
exactly the maximal-munch reading `specRead` (`Spec/Reader.lean`), in order, with the same values.
`specRead` itself is executed by the driver (`specwords`) and compared with the independent Python
reader `harness/refprinter.py: read_words` in the `text` suite; they differ only on a trailing
decimal point (`1.`), which the spec leaves behind as a skipped character and the RS274 reader
consumes: the value is `1` in both.

The handler half, for every word list: the last valued occurrence of a letter wins
(`lastValue_spec`, `g0_acts_on_last_values`); `ERP.track_gcode` (`Lemmas/StepInv.lean`): for every
command of the dialect the tracked X/Y/Z position after `handleGcode` is the position of the
reference printer (`Spec/Printer.lean`, which reads a command's words through the same last-value
rule). -/
namespace ERP.C19

section
variable {α : Type}

/-- the values given for letter `c`, in order -/
def valuesOf (ws : List (Char × Option α)) (c : Char) : List α :=
  ws.filterMap (fun kv => if kv.1 == c then kv.2 else none)

theorem valuesOf_snoc (ws : List (Char × Option α)) (k c : Char) (v : Option α) :
    valuesOf (ws ++ [(k, v)]) c = valuesOf ws c ++ (if k == c then v.toList else []) := by
  unfold valuesOf
  rw [List.filterMap_append, List.filterMap_cons, List.filterMap_nil]
  congr 1
  cases (k == c) <;> cases v <;> rfl

/-- **Last value wins.**  `lastValue ws c` is the value of the *last* word with letter `c` that
carries a value (valueless repetitions of the letter are ignored), `none` when there is none. -/
theorem lastValue_spec (ws : List (Char × Option α)) (c : Char) :
    lastValue ws c = (valuesOf ws c).getLast? := by
  induction ws using List.reverseRecOn with
  | nil => rfl
  | append_singleton ws w ih =>
    obtain ⟨k, v⟩ := w
    rw [lastValue_snoc, valuesOf_snoc, ih]
    cases (k == c)
    · exact (congrArg List.getLast? (List.append_nil _)).symm
    · cases v with
      | none => exact (congrArg List.getLast? (List.append_nil _)).symm
      | some x => exact (List.getLast?_concat ..).symm

theorem lastValue_append_valued (ws : List (Char × Option α)) (c : Char) (v : α) :
    lastValue (ws ++ [(c, some v)]) c = some v := by
  rw [lastValue_snoc, beq_self_eq_true]
  rfl

theorem lastValue_append_other (ws : List (Char × Option α)) (c d : Char) (v : Option α) (h : d ≠ c) :
    lastValue (ws ++ [(d, v)]) c = lastValue ws c := by
  rw [lastValue_snoc, beq_eq_false_iff_ne.mpr h]
  rfl

theorem lastValue_append_flag (ws : List (Char × Option α)) (c d : Char) :
    lastValue (ws ++ [(d, none)]) c = lastValue ws c := by
  rw [lastValue_snoc]
  exact ite_self _

theorem wordsOf_append (a b : List (Item α)) : wordsOf (a ++ b) = wordsOf a ++ wordsOf b :=
  List.filterMap_append

theorem wordsOf_end (a : List (Item α)) (src : Text) (sa : Option Nat) :
    wordsOf (match sa with | some o => a ++ [.strArg (src.drop o)] | none => a) = wordsOf a := by
  cases sa with
  | none => rfl
  | some o => exact (wordsOf_append a _).trans (List.append_nil _)

section
variable [OfDecimal α]
open ERP.Rx

theorem itemsLoop_end (src : Text) (fuel : Nat) (sa : Option Nat) (acc : List (Item α)) :
    wordsOf (itemsLoop src fuel src.length sa acc) = wordsOf acc := by
  cases fuel with
  | zero => exact wordsOf_end acc src sa
  | succ f =>
    simp only [itemsLoop]
    rw [scan_eq src.toArray src.length (Nat.le_refl _), show src.length = (⟨src.toArray⟩ : Ctx).s.size from rfl,
      scan_end]
    exact wordsOf_end acc src sa

/-- the loop yields, as letter items, what was collected plus the reference reading of the rest -/
theorem itemsLoop_spec (src : Text) :
    ∀ (fuel off : Nat) (sa : Option Nat) (acc : List (Item α)), off ≤ src.length →
      wordsOf (itemsLoop src fuel off sa acc) = wordsOf acc ++ specWords src fuel off := by
  intro fuel
  induction fuel with
  | zero =>
    intro off sa acc _
    simp only [itemsLoop, specWords, List.append_nil]
    exact wordsOf_end acc src sa
  | succ fuel ih =>
    intro off sa acc hoff
    have hr := span_run (ctx := ⟨src.toArray⟩) (show off ≤ src.toArray.size from hoff) false SP
    simp only [itemsLoop, specWords]
    rw [scan_eq src.toArray off hoff, scan]
    generalize span ⟨src.toArray⟩ false SP off = p1 at hr ⊢
    have hp1 : p1 ≤ src.length := hr.inside
    by_cases hl : passes ⟨src.toArray⟩ false LET p1 = true
    · have hr2 := span_run (ctx := ⟨src.toArray⟩) (show p1 + 1 ≤ src.toArray.size from passes_lt hl) false SP
      simp only [hl, if_true]
      generalize span ⟨src.toArray⟩ false SP (p1 + 1) = p2 at hr2 ⊢
      have hp2 : p2 ≤ src.length := hr2.inside
      cases hn : numEnd ⟨src.toArray⟩ p2 with
      | none =>
        simp only [capOf_cons, capOf_nil, Nat.reduceEqDiff, if_true, if_false, Nat.lt_succ_self]
        rw [ih p2 _ _ hp2, wordsOf_append, List.append_assoc]
        rfl
      | some e =>
        have he : e ≤ src.length := (numEnd_gt ⟨src.toArray⟩ p2 e hp2 hn).2
        simp only [capOf_cons, Nat.reduceEqDiff, if_true, if_false, Nat.lt_succ_self]
        rw [ih e _ _ he, wordsOf_append, List.append_assoc]
        rfl
    · simp only [hl, Bool.false_eq_true, if_false]
      by_cases hnl : passes ⟨src.toArray⟩ true LET p1 = true
      · simp only [hnl, if_true, capOf_cons, capOf_nil, Nat.reduceEqDiff, if_false]
        exact ih (p1 + 1) _ _ (passes_lt hnl)
      · simp only [hnl, Bool.false_eq_true, if_false, List.append_nil]
        by_cases hlt : off < p1
        · -- neither a letter nor a non-letter: the blanks ran to the end of the text
          have hend : p1 = src.length := by
            rcases Nat.lt_or_ge p1 src.length with h | h
            · exact absurd (passes_of_neg (ctx := ⟨src.toArray⟩) (show p1 < src.toArray.size from h)
                (Bool.eq_false_iff.mpr hnl)) hl
            · omega
          simp only [hlt, if_true, capOf_cons, capOf_nil, Nat.reduceEqDiff, if_false]
          rw [hend]
          exact itemsLoop_end src fuel _ acc
        · simp only [hlt, if_false]
          exact wordsOf_end acc src sa

/-- **The tokenizer is the reference reading** — for every parameter string. -/
theorem parameterItems_eq_spec (t : Text) :
    wordsOf (parameterItems (α := α) (some t)) = specRead t := by
  unfold parameterItems specRead
  rw [itemsLoop_spec t _ 0 none [] (Nat.zero_le _)]
  rfl

end
end

section
open T
-- an end result, over the instance list the property modules are stated with
set_option linter.unusedSectionVars false
variable {α : Type} [Field α] [LinearOrder α] [IsStrictOrderedRing α] [MathOps α] [MathSpec α]

/-- **The linear-move handler acts on the last value of each letter.**  Of well-formedness only
`h.pos.e` is used: the E axis must be known, because `_addCommands` moves it forth and back. -/
theorem g0_acts_on_last_values (cfg : Config) (s : FState α) (cmd : Cmd α) (h : WF s) :
    let p := (T.handleG0 cfg s cmd).1.position
    p.x = setLog s.position.x (valuesOf cmd.words 'X').getLast? ∧
    p.y = setLog s.position.y (valuesOf cmd.words 'Y').getLast? ∧
    p.z = setLog s.position.z (valuesOf cmd.words 'Z').getLast? ∧
    p.e = setLog s.position.e (valuesOf cmd.words 'E').getLast? := by
  simp only [T.handleG0]
  rw [plm_pos _ _ _ _ _ _ _ h.pos.e]
  -- `lastValue_spec` turns each coordinate of `movedPos` into the right-hand side
  simp only [movedPos, loopAxis, List.map_cons, List.map_nil, List.foldl_cons, List.foldl_nil,
    lastValue_spec, and_self]
end

/-- non-vacuity of the last-value rule on a repeated letter and a valueless flag -/
example : lastValue [('X', some (1 : Nat)), ('Y', some 2), ('X', some 3), ('X', none)] 'X' = some 3 := by decide

/-- sign, digits, scale — the exact decimal a number text denotes -/
instance : OfDecimal (Bool × Nat × Nat) := ⟨fun n m e => (n, m, e)⟩

/-- the reference reading on a line with every spelling the property lists: lower case, spaces,
signs, leading and trailing decimal point, a repeated letter, valueless flags -/
theorem specRead_sample : specRead (α := Bool × Nat × Nat) "X1.5 y -2 S E+1. X.25F".toList =
    [('X', some (false, 15, 1)), ('Y', some (true, 2, 0)), ('S', none), ('E', some (false, 1, 0)),
     ('X', some (false, 25, 2)), ('F', none)] := by decide +kernel

example : specRead (α := Bool × Nat × Nat) "X1.5 y -2 S E+1. X.25F".toList =
    [('X', some (false, 15, 1)), ('Y', some (true, 2, 0)), ('S', none), ('E', some (false, 1, 0)),
     ('X', some (false, 25, 2)), ('F', none)] := specRead_sample

example : wordsOf (parameterItems (α := Bool × Nat × Nat) (some "X1.5 y -2 S E+1. X.25F".toList)) =
    [('X', some (false, 15, 1)), ('Y', some (true, 2, 0)), ('S', none), ('E', some (false, 1, 0)),
     ('X', some (false, 25, 2)), ('F', none)] :=
  (parameterItems_eq_spec _).trans specRead_sample
end ERP.C19
