import ERP.Spec.Lifecycle
import ERP.Lemmas.Monad
import ERP.Lemmas.GenTies
/-! # C15 — A print that ends while excluding is cleaned up exactly once

About `Plugin.handleScriptHook` of the faithful model, so conditional on the hook returning.
`exit_ok_state` is the one fact about `FState.exitExcludedRegion` this needs, proved without
well-formedness. -/
namespace ERP.C15
set_option linter.unusedSectionVars false

variable {α : Type} [Add α] [Sub α] [Mul α] [Div α] [Neg α] [LT α] [LE α] [BEq α]
  [OfNat α 0] [OfNat α 1] [OfNat α 2] [DecidableLT α] [DecidableLE α] [MathOps α] [OfDecimal α]

/-- whenever `exitExcludedRegion` returns, the filter is not excluding afterwards and nothing
deferred is left -/
theorem exit_ok_state (cfg : Config) (s s' : FState α) (c : List (Out α))
    (h : s.exitExcludedRegion cfg = .ok (s', c)) : s'.excluding = false ∧
      (s.excluding = true → s'.pendingCommands = []) := by
  unfold FState.exitExcludedRegion at h
  -- `if !s.excluding`
  split at h
  · rename_i hn
    cases h
    rw [Bool.not_eq_true'] at hn
    exact ⟨hn, fun hx => absurd (hn.symm.trans hx) Bool.false_ne_true⟩
  · simp only [FState.processPendingCommands] at h
    obtain ⟨e, _, h⟩ := M.bind_eq_ok h
    -- `match s.lastPosition`
    split at h
    · cases h
    · -- `match` on the native Z of the position and of the last position
      split at h
      · -- feed rate, Z exit coordinate, feed rate again, X and Y exit coordinates
        obtain ⟨f, _, h⟩ := M.bind_eq_ok h
        obtain ⟨zc, _, h⟩ := M.bind_eq_ok h
        obtain ⟨f2, _, h⟩ := M.bind_eq_ok h
        obtain ⟨xc, _, h⟩ := M.bind_eq_ok h
        obtain ⟨yc, _, h⟩ := M.bind_eq_ok h
        cases h
        exact ⟨rfl, fun _ => rfl⟩
      · cases h

/-- The condition under which the script hook runs the exit sequence: the script is the
after-print script, a print is active and an episode is open.  The hook may still raise then
(K-D20: an axis position unknown); every theorem below that speaks of a result assumes `.ok`. -/
def Contributes (p : Plugin α) (ty nm : String) : Prop :=
  ty = "gcode" ∧ nm = "afterPrintDone" ∧ p.activePrintJob = true ∧ p.st.excluding = true

/-- Under `Contributes` the hook is `exitExcludedRegion` of the filter: when that returns, the
prefix is precisely the exit sequence of the open episode (deferred commands, exit script,
re-synchronisation moves); when it raises, so does the hook. -/
theorem contributes (p : Plugin α) (ty nm : String) (hc : Contributes p ty nm) :
    p.handleScriptHook ty nm =
      (p.st.exitExcludedRegion p.cfg).map (fun r => ({ p with st := r.1 }, some r.2)) := by
  obtain ⟨rfl, rfl, ha, he⟩ := hc
  unfold Plugin.handleScriptHook
  simp only [beq_self_eq_true, Bool.and_self, if_true, ha, he]
  cases p.st.exitExcludedRegion p.cfg <;> rfl

theorem contributes_leaves_not_excluding (p p' : Plugin α) (ty nm : String) (o : Option (List (Out α)))
    (hc : Contributes p ty nm) (h : p.handleScriptHook ty nm = .ok (p', o)) :
    p'.st.excluding = false ∧ p'.st.pendingCommands = [] ∧ p'.activePrintJob = p.activePrintJob ∧
    ∃ l, o = some l := by
  rw [contributes p ty nm hc] at h
  cases hx : p.st.exitExcludedRegion p.cfg with
  | error e => rw [hx] at h; cases h
  | ok r =>
    rw [hx] at h
    cases h
    obtain ⟨h1, h2⟩ := exit_ok_state p.cfg p.st r.1 r.2 hx
    exact ⟨h1, h2 hc.2.2.2, rfl, r.2, rfl⟩

/-- If no episode is open, no print is active, or the hook is invoked for any other script,
nothing is contributed and nothing changes. -/
theorem otherwise_nothing (p : Plugin α) (ty nm : String) (hc : ¬ Contributes p ty nm) :
    p.handleScriptHook ty nm = .ok (p, none) := by
  unfold Plugin.handleScriptHook
  by_cases h1 : (ty == "gcode" && nm == "afterPrintDone") = true
  · rw [if_pos h1]
    by_cases h2 : (p.activePrintJob && p.st.excluding) = true
    · simp only [Bool.and_eq_true, beq_iff_eq] at h1 h2
      exact absurd ⟨h1.1, h1.2, h2.1, h2.2⟩ hc
    · rw [if_neg h2]
  · rw [if_neg h1]

/-- **Exactly once**: immediately repeating the hook after it contributed yields nothing. -/
theorem exactly_once (p p' : Plugin α) (ty nm ty2 nm2 : String) (o : Option (List (Out α)))
    (hc : Contributes p ty nm) (h : p.handleScriptHook ty nm = .ok (p', o)) :
    p'.handleScriptHook ty2 nm2 = .ok (p', none) := by
  apply otherwise_nothing
  intro hc2
  have := (contributes_leaves_not_excluding p p' ty nm o hc h).1
  rw [hc2.2.2.2] at this
  cases this

end ERP.C15
