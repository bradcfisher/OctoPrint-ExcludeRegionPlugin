import ERP.Properties.C03
import ERP.Lemmas.GenTies -- tie to /repo
/-! # C14 — @-commands switch exclusion off and on correctly

G-code side: `SwitchInv` is kept, no move suppressed; @-command side: disable, streaming, unmatched. -/
namespace ERP.C14
open Spec

variable {α : Type} [Field α] [LinearOrder α] [IsStrictOrderedRing α] [MathOps α] [MathSpec α]

set_option linter.unusedSectionVars false in
theorem gcode_enabled_unchanged (cfg : Config) (inch : α) (s : FState α) (g : String) (cmd : Cmd α)
    (h : WF s) : (T.handleGcode cfg inch s g cmd).1.exclusionEnabled = s.exclusionEnabled :=
  handleGcode_cases (motive := fun r => r.1.exclusionEnabled = s.exclusionEnabled) cfg inch s g cmd rfl
    (fun _ _ _ _ _ => (plm_ctrl cfg s cmd _ _ _ _).enabled) (fun _ hr => hr.enabled)

/-- no episode is open while exclusion is disabled -/
def SwitchInv (s : FState α) : Prop := s.exclusionEnabled = false → s.excluding = false

theorem gcode_switchInv (cfg : Config) (inch : α) (s : FState α) (g : String) (cmd : Cmd α)
    (h : WF s) (hi : SwitchInv s) : SwitchInv (T.handleGcode cfg inch s g cmd).1 := by
  intro hdis
  rw [gcode_enabled_unchanged cfg inch s g cmd h] at hdis
  refine handleGcode_cases (motive := fun r => r.1.excluding = false) cfg inch s g cmd (hi hdis)
    (fun _ ep fr fz xy => ?_) (fun _ hr => hr.excluding.trans (hi hdis))
  -- while disabled no move hits, and no episode was open
  rw [(plm_ctrl cfg s cmd ep fr fz xy).excluding, hitOf_of_disabled s ep fr fz xy hdis, hi hdis]
  exact ite_self _

set_option linter.unusedSectionVars false in
/-- **After a disable no move is suppressed.** While exclusion is disabled and `SwitchInv s` is
assumed, a linear move is forwarded: the printer receives at most an owed recovery (E only) and then
the command itself, and no episode opens. -/
theorem C14_no_suppression_while_disabled (cfg : Config) (s : FState α) (cmd : Cmd α) (h : WF s)
    (hdis : s.exclusionEnabled = false) (hi : SwitchInv s)
    (hmove : T.isMoveOf (lastValue cmd.words 'Z') [(lastValue cmd.words 'X', lastValue cmd.words 'Y')] = true) :
    (∃ pre, fwdOf cmd (T.handleG0 cfg s cmd).2 = pre ++ [.orig cmd] ∧ ∀ o ∈ pre, EOnly o) ∧
    (T.handleG0 cfg s cmd).1.excluding = false := by
  unfold T.handleG0
  refine ⟨(plm_outs cfg s cmd _ _ _ _).pass hmove (hitOf_of_disabled s _ _ _ _ hdis) (hi hdis), ?_⟩
  rw [(plm_ctrl cfg s cmd _ _ _ _).excluding, hitOf_of_disabled s _ _ _ _ hdis, hmove]; rfl

set_option linter.unusedSectionVars false in
/-- **A disable that arrives mid-episode closes the episode at once**, emitting the exit sequence
of leaving a region, so the re-synchronisation theorems (C03) apply to it. -/
theorem C14_disable_mid_episode (cfg : Config) (s : FState α) (hen : s.exclusionEnabled = true)
    (hex : s.excluding = true) :
    T.disableExclusion cfg s = T.exitExcludedRegion cfg { s with exclusionEnabled := false } ∧
    (T.disableExclusion cfg s).1.excluding = false ∧
    (T.disableExclusion cfg s).1.exclusionEnabled = false := by
  have e : T.disableExclusion cfg s = T.exitExcludedRegion cfg { s with exclusionEnabled := false } := by
    rw [disableExclusion_eq, if_pos hen, if_pos hex]
  refine ⟨e, ?_, ?_⟩ <;> rw [e, exitExcludedRegion_fst, if_pos hex]

/-- … and if after an @-command no episode is open (`hoff`: assumed), the printer is exactly where
the file is: `Good` is preserved by @-commands. -/
theorem C14_disable_resyncs (cfg : Config) (inch : α) (hinch : inch ≠ 0) (y : Sys α) (hg : C03.Good y)
    (cmd : String) (ps : Text)
    (hoff : (y.step cfg inch (.atCmd false cmd ps)).s.excluding = false) :
    XYZeq (y.step cfg inch (.atCmd false cmd ps)).phys.pos (y.step cfg inch (.atCmd false cmd ps)).virt.pos :=
  (C03.good_step cfg inch hinch y (.atCmd false cmd ps) hg trivial).synced hoff

/-- **While disabled the tool position keeps being tracked**: `track_gcode` has no hypothesis
about the switch. -/
theorem C14_tracking_regardless_of_switch (cfg : Config) (inch : α) (s : FState α) (virt : Printer α)
    (g : String) (cmd : Cmd α) (h : WF s) (hd : Dialect s g cmd) (ht : XYZeq s.position virt.pos) :
    XYZeq (T.handleGcode cfg inch s g cmd).1.position
      (virt.exec cfg.g90InfluencesExtruder inch (Code.ofString g) cmd.words).pos :=
  track_gcode cfg inch s virt g cmd h hd ht

set_option linter.unusedSectionVars false in
/-- @-commands arriving while streaming to SD change nothing. -/
theorem C14_streaming_noop (cfg : Config) (s : FState α) (cmd : String) (ps : Text) :
    T.handleAtCommand cfg s true cmd ps = (s, false, []) := rfl

set_option linter.unusedSectionVars false in
/-- @-commands matching no configured action change nothing. -/
theorem C14_unmatched_noop (cfg : Config) (s : FState α) (st : Bool) (cmd : String) (ps : Text)
    (hno : ∀ e ∈ cfg.atCommandActions, e.command = cmd → e.matcher ps = false) :
    T.handleAtCommand cfg s st cmd ps = (s, false, []) := by
  unfold T.handleAtCommand
  split
  · rfl
  · apply atLoop_unmatched
    intro e he
    have := List.mem_filter.mp he
    exact hno e this.1 (beq_iff_eq.mp this.2)

end ERP.C14
