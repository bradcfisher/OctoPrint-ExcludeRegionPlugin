import ERP.Lemmas.PluginSpec
import ERP.Properties.C17
import ERP.Lemmas.GenTies
/-! # C12 — The excluded area never shrinks during an active print unless explicitly allowed

An accepted update covers the region it replaces (`replaceFirst_eq_ok_iff`,
`C17.containsRegion_sound`); with `C17.containsRegion_iff` the guard is exact. -/
namespace ERP.C12
set_option linter.unusedSectionVars false

variable {α : Type} [Field α] [LinearOrder α] [IsStrictOrderedRing α] [MathOps α] [MathSpec α]
  [OfDecimal α]

/-- a point is excluded by the current region list (whether or not exclusion is switched on) -/
def excluded (p : Plugin α) (x y : α) : Bool := T.anyContains p.st.excludedRegions x y

theorem replaceFirst_monotone (rs rs' : List (Region α)) (new : Region α)
    (h : replaceFirst rs new true = .ok rs') (x y : α)
    (hx : T.anyContains rs x y = true) : T.anyContains rs' x y = true := by
  obtain ⟨pre, old, post, rfl, rfl, -, -, hc⟩ := (replaceFirst_eq_ok_iff rs rs' new true).mp h
  simp only [T.anyContains, List.any_append, List.any_cons, Bool.or_eq_true] at hx ⊢
  exact hx.imp_right (Or.imp_left (C17.containsRegion_sound new old (hc rfl) x y))

/-- **One request.** While a print is active and shrinking is not allowed: every point that was
excluded is still excluded, a refused request changes nothing, and the guard (active print,
setting) is untouched by API requests. -/
theorem request_monotone (p : Plugin α) (hact : p.activePrintJob = true)
    (hs : p.mayShrinkRegionsWhilePrinting = false) (anon : Bool) (req : ApiReq α) :
    let r := p.onApiCommand anon req
    (∀ x y, excluded p x y = true → excluded r.1 x y = true) ∧
    (r.2 ≠ none → r.1 = p) ∧
    r.1.activePrintJob = true ∧ r.1.mayShrinkRegionsWhilePrinting = false := by
  dsimp only
  rcases onApiCommand_spec p anon req with ⟨c, e⟩ | ⟨rs, he, e⟩ <;> rw [e]
  · exact ⟨fun _ _ h => h, fun _ => rfl, hact, hs⟩
  · refine ⟨fun x y h => ?_, fun h => absurd rfl h, hact, hs⟩
    rw [excluded, Plugin.withRegions_regions]
    cases req with
    | add r =>
      rw [he.2, T.anyContains, List.any_append, Bool.or_eq_true]
      exact .inl h
    | update r =>
      simp only [ApiEffect, hs, hact] at he
      exact replaceFirst_monotone _ _ _ he x y h
    | delete i =>
      simp only [ApiEffect, hs, hact] at he
      cases he.1
    | badType c => exact he.elim
    | unknown => exact he.elim

theorem delete_refused (p : Plugin α) (hact : p.activePrintJob = true)
    (hs : p.mayShrinkRegionsWhilePrinting = false) (i : String) :
    p.onApiCommand false (.delete i) = (p, some 409) := by
  rw [onApiCommand_delete, hs, hact]
  rfl

/-- API requests with their authentication flags, applied in order -/
def applyAll (p : Plugin α) : List (Bool × ApiReq α) → Plugin α
  | [] => p
  | (anon, req) :: rest => applyAll (p.onApiCommand anon req).1 rest

/-- **C12.** No sequence of API requests can make an excluded point stop being excluded while a
print is active and the shrink-while-printing setting is off. -/
theorem C12_never_shrinks (reqs : List (Bool × ApiReq α)) :
    ∀ p : Plugin α, p.activePrintJob = true → p.mayShrinkRegionsWhilePrinting = false →
      ∀ x y, excluded p x y = true → excluded (applyAll p reqs) x y = true := by
  induction reqs with
  | nil => intro p _ _ x y h; exact h
  | cons r rest ih =>
    intro p hact hs x y h
    obtain ⟨anon, req⟩ := r
    obtain ⟨h1, _, h3, h4⟩ := request_monotone p hact hs anon req
    exact ih _ h3 h4 x y (h1 x y h)

/-! The side condition `C17.Region.Proper` below is needed for "refuses no covering update": a
stored circle with a negative radius has no points, is covered by anything, and may still be refused
by `hypot + r_old ≤ r_new`. -/

/-- the first region of the list with the id of `new`, if any: the one an update replaces -/
def firstWithId (rs : List (Region α)) (new : Region α) : Option (Region α) :=
  rs.find? (fun r => r.id == new.id)

/-- **Acceptance criterion of a guarded update, exactly.** With the must-contain-old check on,
`replaceFirst` succeeds precisely when the list holds a region with the new region's id and the
new region covers every point of (the first) such region, all stored regions being proper. -/
theorem replaceFirst_accepts_iff (rs : List (Region α)) (new : Region α)
    (hp : ∀ r ∈ rs, C17.Region.Proper r) :
    (∃ rs', replaceFirst rs new true = .ok rs') ↔
      ∃ old, firstWithId rs new = some old ∧
        ∀ x y, old.containsPoint x y = true → new.containsPoint x y = true := by
  simp only [replaceFirst_eq_ok_iff, firstWithId, List.find?_eq_some_iff_append, forall_const]
  constructor
  · rintro ⟨_, pre, old, post, rfl, -, e3, e4, e5⟩
    exact ⟨old, ⟨e3, pre, post, rfl, fun r hr => by rw [e4 r hr]; rfl⟩,
      (C17.containsRegion_iff new old (hp old (List.mem_append_right _ List.mem_cons_self))).mp e5⟩
  · rintro ⟨old, ⟨e3, pre, post, rfl, e4⟩, h⟩
    exact ⟨_, pre, old, post, rfl, rfl, e3, fun r hr => by simpa using e4 r hr,
      (C17.containsRegion_iff new old (hp old (List.mem_append_right _ List.mem_cons_self))).mpr h⟩

/-- **The update clause of C12 at the API.** While a print is active and shrinking is off, an
authorised update request is answered without an error status exactly when a region with that id
exists and the new geometry covers all of it (stored regions proper); in every other case the
answer is 409 and the plugin is unchanged. -/
theorem update_accepted_iff (p : Plugin α) (hact : p.activePrintJob = true)
    (hs : p.mayShrinkRegionsWhilePrinting = false) (new : Region α)
    (hp : ∀ r ∈ p.st.excludedRegions, C17.Region.Proper r) :
    let r := p.onApiCommand false (.update new)
    (r.2 = none ↔ ∃ old, firstWithId p.st.excludedRegions new = some old ∧
        ∀ x y, old.containsPoint x y = true → new.containsPoint x y = true) ∧
    (r.2 ≠ none → r = (p, some 409)) := by
  have key := replaceFirst_accepts_iff p.st.excludedRegions new hp
  rw [onApiCommand_update, hs, hact, Bool.not_false, Bool.true_and]
  cases hr : replaceFirst p.st.excludedRegions new true with
  | error e =>
    rw [hr] at key
    exact ⟨⟨nofun, fun h => (key.mpr h).elim nofun⟩, fun _ => rfl⟩
  | ok t =>
    rw [hr] at key
    exact ⟨⟨fun _ => key.mp ⟨t, rfl⟩, fun _ => rfl⟩, fun h => absurd rfl h⟩

/-- what an accepted update does to the list: exactly the first region with that id is replaced,
every other entry stays where it is (`must` on or off) -/
theorem replaceFirst_ok_shape (rs rs' : List (Region α)) (new : Region α) (must : Bool)
    (h : replaceFirst rs new must = .ok rs') :
    ∃ pre old post, rs = pre ++ old :: post ∧ rs' = pre ++ new :: post ∧
      (old.id == new.id) = true ∧ (∀ r ∈ pre, (r.id == new.id) = false) ∧
      (must = true → new.containsRegion old = true) :=
  (replaceFirst_eq_ok_iff rs rs' new must).mp h

/-- **Updates are idempotent**, at the level of `replaceFirst`: re-sending an update that was
accepted is accepted again (the new region being proper) and leaves the region list as it is. -/
theorem update_idempotent (rs rs' : List (Region α)) (new : Region α) (must : Bool)
    (hn : C17.Region.Proper new) (h : replaceFirst rs new must = .ok rs') :
    replaceFirst rs' new must = .ok rs' := by
  obtain ⟨pre, old, post, -, rfl, -, e4, -⟩ := (replaceFirst_eq_ok_iff rs rs' new must).mp h
  exact (replaceFirst_eq_ok_iff _ _ new must).mpr
    ⟨pre, new, post, rfl, rfl, beq_self_eq_true _, e4, fun _ => C17.containsRegion_refl new hn⟩

end ERP.C12
