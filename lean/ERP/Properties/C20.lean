import ERP.Model.Entry
import ERP.Lemmas.Monad
import ERP.Lemmas.GenTies -- tie to /repo
/-! # C20 — Offline stream filtering calls the live handlers and is isolated

In the model the stream processor owns a *value* of the filter state (the deep copy), so isolation
is structural; the correspondence suite `stream` checks that the implementation's live objects are
untouched and that the model's outputs equal `process_line`'s byte for byte. The theorems say what
`process_line` returns in terms of the live entry points `handleGcodeText` / `handleAtCommand`. -/
namespace ERP.C20

/-- the command text the live queuing hook sees for a parsed line: normalised, without leading
blanks, line number, checksum, comment and line ending -/
def liveCommand (p : Parser) : Text :=
  p.stringify (includeLeadingWhitespace := false) (includeLineNumber := false) (includeComment := false)
    (includeEol := false)

/-- the command text the stream processor passes to the same handler -/
def streamCommand (p : Parser) : Text :=
  p.stringify (includeLineNumber := false) (includeComment := false) (includeEol := false)

/-- **Same command modulo leading blanks**: the stream processor passes the live command prefixed
by the line's own indentation (which a G-code reader skips). -/
theorem streamCommand_eq (p : Parser) : streamCommand p = p.leadingWhitespace ++ liveCommand p := by
  unfold streamCommand liveCommand Parser.stringify
  simp only [Bool.false_eq_true, if_false, if_true, Bool.false_and, List.append_nil, List.nil_append]
  cases p.gcode <;>
    simp only [Option.none_beq_some, Bool.false_eq_true, if_false, List.cons_append,
      List.nil_append, List.append_nil]

section
variable {α : Type}

/-- the line ending used for emitted lines: the most recent one seen, `"\n"` if none yet -/
def eolFor (sp : StreamProc α) (p : Parser) : Text :=
  if p.eol.isEmpty then sp.eol.getD ['\n'] else p.eol

theorem ite_eol_eq (sp : StreamProc α) (p : Parser) :
    (if p.eol.isEmpty then sp else { sp with eol := some p.eol }) =
      { sp with eol := if p.eol.isEmpty then sp.eol else some p.eol } := by
  split <;> rfl

theorem getD_eol_eq (sp : StreamProc α) (p : Parser) :
    (if p.eol.isEmpty then sp.eol else some p.eol).getD ['\n'] = eolFor sp p := by
  unfold eolFor; split <;> rfl

end

variable {α : Type} [Add α] [Sub α] [Mul α] [Div α] [Neg α] [LT α] [LE α] [BEq α]
  [OfNat α 0] [OfNat α 1] [OfNat α 2] [DecidableLT α] [DecidableLE α] [MathOps α] [OfDecimal α]

/-- **G-code lines.** For a line that parses to a command, `process_line` calls exactly the live
handler on `streamCommand`, and returns: the input line itself when the handler leaves the command
unchanged; nothing when it suppresses it; otherwise the handler's commands joined and terminated
by the file's line ending. The copied filter state is the handler's on that text. -/
theorem gcode_line (cfg : Config) (inch : α) (sp : StreamProc α) (line : Text) (p : Parser) (c : Char)
    (hp : ({} : Parser).parse (some line) = .ok p) (ht : p.type = some c) :
    sp.processLine cfg inch line =
      (handleGcodeText cfg inch sp.st (streamCommand p) (p.gcode.getD [])).map (fun r =>
        match r.2 with
        | .none => ({ sp with st := r.1, eol := if p.eol.isEmpty then sp.eol else some p.eol }, LineOut.unchanged)
        | .ignore => ({ sp with st := r.1, eol := if p.eol.isEmpty then sp.eol else some p.eol }, LineOut.omit)
        | .list l => ({ st := r.1, eol := some (eolFor sp p) }, LineOut.lines l (eolFor sp p))) := by
  unfold StreamProc.processLine
  simp only [hp, M.ok_bind, ht, streamCommand, ite_eol_eq]
  cases handleGcodeText cfg inch sp.st
    (p.stringify (includeLineNumber := false) (includeComment := false) (includeEol := false))
    (p.gcode.getD []) with
  | error e => rfl
  | ok r =>
    obtain ⟨st, res⟩ := r
    cases res
    · rfl
    · rfl
    · simp only [M.ok_bind, Except.map, getD_eol_eq]

/-- **Everything else** (blank, comment-only, unknown text, or an @-command that is not handled) is
returned untouched — the input line itself, byte for byte. -/
theorem other_line (cfg : Config) (inch : α) (sp : StreamProc α) (line : Text) (p : Parser)
    (hp : ({} : Parser).parse (some line) = .ok p) (ht : p.type = none) (hat : p.text.head? ≠ some '@') :
    ∃ sp', sp.processLine cfg inch line = .ok (sp', .unchanged) ∧ sp'.st = sp.st := by
  unfold StreamProc.processLine
  simp only [hp, M.ok_bind, ht]
  rw [if_neg fun h => hat (beq_iff_eq.mp h)]
  exact ⟨_, rfl, by split <;> rfl⟩

/-- **@-command lines** go through the same `handleAtCommand` the live hook calls (with a comm
object that is never streaming); unhandled ones are returned untouched. -/
theorem at_line (cfg : Config) (inch : α) (sp : StreamProc α) (line : Text) (p : Parser)
    (hp : ({} : Parser).parse (some line) = .ok p) (ht : p.type = none) (hat : p.text.head? = some '@') :
    sp.processLine cfg inch line =
      (handleAtCommand cfg sp.st false (String.ofList (splitAtCommand p.text).1) (splitAtCommand p.text).2).map
        (fun r =>
          if r.2.1 then
            if r.2.2.isEmpty then ({ sp with st := r.1, eol := if p.eol.isEmpty then sp.eol else some p.eol }, LineOut.omit)
            else ({ st := r.1, eol := some (eolFor sp p) }, LineOut.lines r.2.2 (eolFor sp p))
          else ({ sp with st := r.1, eol := if p.eol.isEmpty then sp.eol else some p.eol }, LineOut.unchanged)) := by
  unfold StreamProc.processLine
  simp only [hp, M.ok_bind, ht, hat, beq_self_eq_true, if_true, ite_eol_eq]
  cases handleAtCommand cfg sp.st false (String.ofList (splitAtCommand p.text).1)
    (splitAtCommand p.text).2 with
  | error e => rfl
  | ok r =>
    obtain ⟨st, handled, sent⟩ := r
    simp only [M.ok_bind, Except.map, getD_eol_eq]
    cases handled <;> simp only [Bool.false_eq_true, if_false, if_true]
    split <;> rfl

end ERP.C20
