import ERP.Lemmas.RealOps
import ERP.Lemmas.Refine
import ERP.Lemmas.GenTies
/-! # C16 — Arc moves are sampled faithfully (over ℝ, with `Real.sqrt/sin/cos`, `atan2 = Complex.arg`)

About `T.planArc`, which `planArc_ok'` (`Lemmas/Refine`) identifies with `planArc` of the faithful
model on homed states: the samples lie on the circle, one sampling step apart by a chord of at most
one unit, and the sweep ends at the commanded end point, so every point of the arc is within one
unit of a tested point (`planArc_covers`).  The radius form of the centre is K-D10. -/
namespace ERP.C16
open Real

/-- the `k`-th intermediate sample, `k` from 0, at angle `a + (k + 1) · inc` -/
noncomputable def samplePoint (cx cy r a inc : ℝ) (k : ℕ) : ℝ × ℝ :=
  (cx + Real.cos (a + (k + 1 : ℕ) * inc) * r, cy + Real.sin (a + (k + 1 : ℕ) * inc) * r)

theorem samplePoint_succ (cx cy r a inc : ℝ) (k : ℕ) :
    samplePoint cx cy r (a + inc) inc k = samplePoint cx cy r a inc (k + 1) := by
  unfold samplePoint
  rw [add_assoc a, ← one_add_mul, add_comm 1, ← Nat.cast_add_one (k + 1)]

theorem arcLoop_spec (cx cy r inc : ℝ) (m : ℕ) :
    ∀ (a : ℝ) (acc : List (ℝ × ℝ)),
      ERP.arcLoop cx cy r inc m a acc = acc ++ (List.range m).map (samplePoint cx cy r a inc) := by
  induction m with
  | zero =>
    intro a acc
    exact (List.append_nil acc).symm
  | succ n ih =>
    intro a acc
    have h0 : (cx + MathOps.cos (a + inc) * r, cy + MathOps.sin (a + inc) * r) =
        samplePoint cx cy r a inc 0 := by
      unfold samplePoint
      rw [Nat.cast_add, Nat.cast_zero, zero_add, Nat.cast_one, one_mul]
      rfl
    rw [ERP.arcLoop, ih, h0, List.range_succ_eq_map, List.map_cons, List.map_map, List.append_assoc,
      List.singleton_append]
    exact congrArg (fun f => acc ++ samplePoint cx cy r a inc 0 :: (List.range n).map f)
      (funext (samplePoint_succ cx cy r a inc))

/-- **On the circle.** Every intermediate sample is at distance `radius` from the centre. -/
theorem sample_on_circle (cx cy r a inc : ℝ) (k : ℕ) :
    ((samplePoint cx cy r a inc k).1 - cx) ^ 2 + ((samplePoint cx cy r a inc k).2 - cy) ^ 2 = r ^ 2 := by
  simp only [samplePoint, add_sub_cancel_left]
  rw [mul_pow, mul_pow, ← add_mul, Real.cos_sq_add_sin_sq, one_mul]

theorem chord_sq (cx cy r u v : ℝ) :
    ((cx + Real.cos u * r) - (cx + Real.cos v * r)) ^ 2 + ((cy + Real.sin u * r) - (cy + Real.sin v * r)) ^ 2 =
      r ^ 2 * (2 - 2 * Real.cos (u - v)) := by
  rw [Real.cos_sub]
  linear_combination r ^ 2 * (Real.cos_sq_add_sin_sq u + Real.cos_sq_add_sin_sq v)

/-- the chord is no longer than the arc: `1 − θ²/2 ≤ cos θ` -/
theorem chord_le (cx cy r u v : ℝ) :
    ((cx + Real.cos u * r) - (cx + Real.cos v * r)) ^ 2 + ((cy + Real.sin u * r) - (cy + Real.sin v * r)) ^ 2 ≤
      (r * (u - v)) ^ 2 := by
  rw [chord_sq, mul_pow]
  have := Real.one_sub_sq_div_two_le_cos (x := u - v)
  exact mul_le_mul_of_nonneg_left (by linarith) (sq_nonneg r)

theorem chord_le_one (cx cy r travel : ℝ) (n : ℕ) (hn : 1 ≤ n) (hr : 0 ≤ r)
    (hseg : |travel| * r ≤ n) (u v : ℝ) (h : |u - v| ≤ |travel| / n) :
    ((cx + Real.cos u * r) - (cx + Real.cos v * r)) ^ 2 +
      ((cy + Real.sin u * r) - (cy + Real.sin v * r)) ^ 2 ≤ 1 := by
  have hnpos : (0 : ℝ) < n := Nat.cast_pos.mpr hn
  refine (chord_le cx cy r u v).trans ((sq_le_one_iff_abs_le_one _).mpr ?_)
  rw [abs_mul, abs_of_nonneg hr]
  calc r * |u - v| ≤ r * (|travel| / n) := mul_le_mul_of_nonneg_left h hr
    _ = |travel| * r / n := by ring
    _ ≤ 1 := (div_le_one hnpos).mpr hseg

/-- **Consecutive samples are at most one length unit apart**, given that the number of segments
is at least the arc length (`numSegments = max 1 ⌈|travel| · radius⌉`). -/
theorem consecutive_samples_close (cx cy r a travel : ℝ) (n : ℕ) (hn : 1 ≤ n) (hr : 0 ≤ r)
    (hseg : |travel| * r ≤ n) (k : ℕ) :
    ((samplePoint cx cy r a (travel / n) (k + 1)).1 - (samplePoint cx cy r a (travel / n) k).1) ^ 2 +
    ((samplePoint cx cy r a (travel / n) (k + 1)).2 - (samplePoint cx cy r a (travel / n) k).2) ^ 2 ≤ 1 := by
  have hnpos : (0 : ℝ) < n := Nat.cast_pos.mpr hn
  refine chord_le_one cx cy r travel n hn hr hseg _ _ (le_of_eq ?_)
  rw [← abs_of_pos hnpos, ← abs_div, abs_of_pos hnpos]
  congr 1
  push_cast
  ring

/-- **Structure of `planArc`** (ℝ instance): `n − 1` intermediate samples at equal angular steps
`travel / n` on the circle about the centre, then exactly the commanded end point; `n` is at least
the arc length `|travel| · radius`. -/
theorem planArc_structure (p : Position ℝ) (endX endY i j : ℝ) (cw : Bool) :
    let travel := T.angularTravel (T.n2l p.x) (T.n2l p.y) endX endY i j cw
    let n := T.numSegments travel (Real.sqrt (i * i + j * j))
    1 ≤ n ∧ |travel| * Real.sqrt (i * i + j * j) ≤ n ∧
      T.planArc p endX endY i j cw =
        (List.range (n - 1)).map (samplePoint (T.n2l p.x + i) (T.n2l p.y + j) (Real.sqrt (i * i + j * j))
          (Complex.arg ⟨-i, -j⟩) (travel / n)) ++ [(endX, endY)] := by
  intro travel n
  refine ⟨le_max_left 1 _, ?_, ?_⟩
  · show |travel| * Real.sqrt (i * i + j * j) ≤ ((T.numSegments travel (Real.sqrt (i * i + j * j)) : ℕ) : ℝ)
    unfold T.numSegments
    rw [div_one, pyAbs_eq]
    exact (Nat.le_ceil _).trans (Nat.cast_le.mpr (le_max_right 1 _))
  · unfold T.planArc
    simp only [MathOps.hypot, MathOps.atan2, MathOps.ofNat]
    rw [arcLoop_spec, List.nil_append]

/-- **The last sample is exactly the commanded end point.** -/
theorem planArc_last (p : Position ℝ) (endX endY i j : ℝ) (cw : Bool) :
    (T.planArc p endX endY i j cw).getLast? = some (endX, endY) := by
  obtain ⟨-, -, h⟩ := planArc_structure p endX endY i j cw
  rw [h, List.getLast?_concat]

theorem start_ne_zero {i j : ℝ} (h : i ≠ 0 ∨ j ≠ 0) : (⟨-i, -j⟩ : ℂ) ≠ 0 := fun hc =>
  h.elim (· (neg_eq_zero.mp (congrArg Complex.re hc))) (· (neg_eq_zero.mp (congrArg Complex.im hc)))

theorem norm_start (i j : ℝ) : ‖(⟨-i, -j⟩ : ℂ)‖ = Real.sqrt (i * i + j * j) := by
  rw [Complex.norm_def, Complex.normSq_mk, neg_mul_neg, neg_mul_neg]

/-- Polar form: any representative `θ` of the angle of `z` gives its coordinates. -/
theorem polar {z : ℂ} {θ : ℝ} (h : (θ : Real.Angle) = (Complex.arg z : ℝ)) :
    Real.cos θ * ‖z‖ = z.re ∧ Real.sin θ * ‖z‖ = z.im := by
  rw [← Real.Angle.cos_coe, ← Real.Angle.sin_coe, h, Real.Angle.cos_coe, Real.Angle.sin_coe,
    mul_comm, mul_comm (Real.sin _)]
  exact ⟨Complex.norm_mul_cos_arg z, Complex.norm_mul_sin_arg z⟩

/-- the start point is on the same circle, at the angle the sampling starts from: it is the
sample before `samplePoint … 0` -/
theorem start_on_circle (i j : ℝ) (h : i ≠ 0 ∨ j ≠ 0) :
    Real.cos (Complex.arg ⟨-i, -j⟩) * Real.sqrt (i * i + j * j) = -i ∧
    Real.sin (Complex.arg ⟨-i, -j⟩) * Real.sqrt (i * i + j * j) = -j := by
  rw [← norm_start]
  exact polar rfl

/-- `(u, v)` is the unit vector along the chord -/
theorem offsets_sq {d h e R u v : ℝ} (hu : u * u + v * v = 1) (he : e * e = 1)
    (hh : h * h = R * R - d / 2 * (d / 2)) :
    (d * u / 2 - e * h * v) * (d * u / 2 - e * h * v) +
      (d * v / 2 - e * h * u) * (d * v / 2 - e * h * u) = R * R - 2 * e * h * d * u * v := by
  linear_combination (d * d / 4 + e * e * (h * h)) * hu + h * h * he + hh

/-- **Radius form.** The centre offsets `computeArcCenterOffsets` returns, when it computes a
centre at all, satisfy `i² + j² = R² − 2·e·h·Δx·Δy / d`; for an axis-aligned chord that is `R²`
(`centre_partial`). This is the known finding K-D10 (the "perpendicular" is `(−Δy, −Δx)`). -/
theorem centre_distance_sq (p : Position ℝ) (endX endY R : ℝ) (cw : Bool)
    (hR : R ≠ 0) (hne : T.n2l p.x ≠ endX ∨ T.n2l p.y ≠ endY)
    (hhalf : Real.sqrt ((endX - T.n2l p.x) * (endX - T.n2l p.x) + (endY - T.n2l p.y) * (endY - T.n2l p.y)) / 2 ≤ |R|) :
    let dx := endX - T.n2l p.x
    let dy := endY - T.n2l p.y
    let d := Real.sqrt (dx * dx + dy * dy)
    let h := Real.sqrt (R * R - d / 2 * (d / 2))
    let e : ℝ := if xor cw (decide (R < 0)) then -1 else 1
    let ij := T.computeArcCenterOffsets p endX endY R cw
    ij.1 * ij.1 + ij.2 * ij.2 = R * R - 2 * e * h * dx * dy / d := by
  intro dx dy d h e ij
  have hdne : d ≠ 0 := fun h0 => by
    -- `hypot` on ℝ unfolds to this `sqrt`
    have := hypot_eq_zero_iff.mp (show MathOps.hypot dx dy = 0 from h0)
    exact hne.elim (· (sub_eq_zero.mp this.1).symm) (· (sub_eq_zero.mp this.2).symm)
  have hhsq : h * h = R * R - d / 2 * (d / 2) :=
    Real.mul_self_sqrt (sub_nonneg.mpr
      (mul_self_le_of_le_abs (div_nonneg (Real.sqrt_nonneg _) zero_le_two) hhalf))
  have he : e * e = 1 := by
    simp only [e]
    split <;> norm_num
  have hu : dx / d * (dx / d) + dy / d * (dy / d) = 1 := by
    rw [div_mul_div_comm, div_mul_div_comm, ← add_div, ← MathSpec.hypot_sq dx dy]
    exact div_self (mul_ne_zero hdne hdne)
  have hcond : (!(R == 0) && (!(T.n2l p.x == endX) || !(T.n2l p.y == endY))) = true := by
    simp only [Bool.and_eq_true, Bool.not_eq_true', beq_eq_false_iff_ne, ne_eq, Bool.or_eq_true]
    exact ⟨hR, hne⟩
  -- written with `dx = d * (dx / d)`, so that `offsets_sq` applies without clearing denominators
  have hij : ij = (d * (dx / d) / 2 - e * h * (dy / d), d * (dy / d) / 2 - e * h * (dx / d)) := by
    simp only [ij, T.computeArcCenterOffsets, MathOps.hypot, MathOps.sqrt, hcond, if_true, pyAbs_eq]
    rw [if_pos hhalf, mul_div_cancel₀ _ hdne, mul_div_cancel₀ _ hdne]
    simp only [dx, dy, e, h, d, Prod.mk.injEq]
    constructor <;> ring
  rw [hij, offsets_sq hu he hhsq]
  simp only [mul_assoc, mul_div_assoc, mul_div_cancel₀ _ hdne]

/-- **C16 (radius form), proved part**: for an axis-aligned chord the centre is at distance `|R|`
from the start point (`i² + j² = R²`). -/
theorem centre_partial (p : Position ℝ) (endX endY R : ℝ) (cw : Bool)
    (hR : R ≠ 0) (hne : T.n2l p.x ≠ endX ∨ T.n2l p.y ≠ endY)
    (hhalf : Real.sqrt ((endX - T.n2l p.x) * (endX - T.n2l p.x) + (endY - T.n2l p.y) * (endY - T.n2l p.y)) / 2 ≤ |R|)
    (hax : (endX - T.n2l p.x) * (endY - T.n2l p.y) = 0) :
    (T.computeArcCenterOffsets p endX endY R cw).1 * (T.computeArcCenterOffsets p endX endY R cw).1 +
    (T.computeArcCenterOffsets p endX endY R cw).2 * (T.computeArcCenterOffsets p endX endY R cw).2 = R * R := by
  have := centre_distance_sq p endX endY R cw hR hne hhalf
  dsimp only at this
  rw [this, mul_assoc, hax, mul_zero, zero_div, sub_zero]

/-- homed at the origin, millimetres, no offsets -/
noncomputable def origin : Position ℝ :=
  { x := Axis.init (some 0), y := Axis.init (some 0), z := Axis.init (some 0), e := Axis.init (some 0) }

/-- **Known finding K-D10 on the model**: from the origin, `G3 X3 Y4 R5` — the computed centre is
*not* at distance 5 from the start point. -/
theorem centre_counterexample :
    (T.computeArcCenterOffsets origin 3 4 5 false).1 * (T.computeArcCenterOffsets origin 3 4 5 false).1 +
    (T.computeArcCenterOffsets origin 3 4 5 false).2 * (T.computeArcCenterOffsets origin 3 4 5 false).2 ≠ 5 * 5 := by
  have hx : T.n2l origin.x = 0 := by norm_num [T.n2l, T.cur, origin, Axis.init]
  have hy : T.n2l origin.y = 0 := hx
  have hd : Real.sqrt ((3 - (0:ℝ)) * (3 - 0) + (4 - (0:ℝ)) * (4 - 0)) = 5 := by
    rw [show ((3 - (0:ℝ)) * (3 - 0) + (4 - (0:ℝ)) * (4 - 0)) = 5 * 5 by norm_num]
    exact Real.sqrt_mul_self (by norm_num)
  have := centre_distance_sq origin 3 4 5 false (by norm_num) (Or.inl (by rw [hx]; norm_num))
    (by rw [hx, hy, hd, abs_of_pos (by norm_num : (0:ℝ) < 5)]; norm_num)
  dsimp only at this
  rw [this, hx, hy, hd, Bool.false_xor, if_neg (by norm_num), sub_zero, sub_zero]
  -- the correction term `2 · e · h · Δx · Δy / d` is positive: `h = √(25 − 6.25) > 0`
  have hh : 0 < Real.sqrt (5 * 5 - 5 / 2 * (5 / 2)) := Real.sqrt_pos.mpr (by norm_num)
  generalize Real.sqrt (5 * 5 - 5 / 2 * (5 / 2)) = h at hh
  exact fun hc => absurd (sub_eq_self.mp hc) (by positivity)

/-- dot and cross product of the two radius vectors, `conj z₀ * z₁` -/
noncomputable abbrev sweepVec (x y endX endY i j : ℝ) : ℂ :=
  ⟨-i * (endX - (x + i)) - j * (endY - (y + j)), -i * (endY - (y + j)) + j * (endX - (x + i))⟩

theorem angularTravel_eq (x y endX endY i j : ℝ) (cw : Bool) :
    T.angularTravel x y endX endY i j cw =
      (let a0 := Complex.arg (sweepVec x y endX endY i j)
       let a1 := if a0 < 0 then a0 + 2 * π else a0
       let a2 := if cw then a1 - 2 * π else a1
       if a2 == 0 && x == endX && y == endY then 2 * π else a2) := rfl

/-- **Direction and size of the sweep**: counter-clockwise arcs sweep an angle in `[0, 2π]`,
clockwise arcs an angle in `[-2π, 0)` (the second alternative of the clockwise clause is never
the case). -/
theorem travel_range (x y endX endY i j : ℝ) (cw : Bool) :
    (cw = false → 0 ≤ T.angularTravel x y endX endY i j cw ∧ T.angularTravel x y endX endY i j cw ≤ 2 * π) ∧
    (cw = true → (-(2 * π) ≤ T.angularTravel x y endX endY i j cw ∧ T.angularTravel x y endX endY i j cw < 0) ∨
      T.angularTravel x y endX endY i j cw = 2 * π) := by
  have hpi := Real.pi_pos
  rw [angularTravel_eq]
  generalize h0 : Complex.arg _ = a0
  have ha : a0 ≤ π := h0 ▸ Complex.arg_le_pi _
  have hb : -π < a0 := h0 ▸ Complex.neg_pi_lt_arg _
  dsimp only
  have h1 : 0 ≤ (if a0 < 0 then a0 + 2 * π else a0) ∧ (if a0 < 0 then a0 + 2 * π else a0) < 2 * π := by
    split <;> constructor <;> linarith
  generalize (if a0 < 0 then a0 + 2 * π else a0) = a1 at h1 ⊢
  constructor
  · rintro rfl
    rw [if_neg Bool.false_ne_true]
    split
    · exact ⟨by linarith, le_rfl⟩
    · exact ⟨h1.1, h1.2.le⟩
  · rintro rfl
    rw [if_pos rfl]
    split
    · exact .inr rfl
    · exact .inl ⟨by linarith, by linarith⟩

/-- As an angle, the sweep is the angle from the start radius to the end radius: each of the three
adjustments of `angularTravel` adds a multiple of `2π`. -/
theorem angularTravel_coe (x y endX endY i j : ℝ) (cw : Bool) :
    ((T.angularTravel x y endX endY i j cw : ℝ) : Real.Angle) =
      (Complex.arg (sweepVec x y endX endY i j) : ℝ) := by
  rw [angularTravel_eq]
  generalize Complex.arg _ = a0
  dsimp only
  have h2 : (((if cw then (if a0 < 0 then a0 + 2 * π else a0) - 2 * π
      else if a0 < 0 then a0 + 2 * π else a0 : ℝ)) : Real.Angle) = a0 := by
    simp only [apply_ite ((↑) : ℝ → Real.Angle), Real.Angle.coe_add, Real.Angle.coe_sub,
      Real.Angle.coe_two_pi, add_zero, sub_zero, ite_self]
  generalize (if cw = true then _ else _ : ℝ) = a2 at h2 ⊢
  split
  · rename_i h
    simp only [Bool.and_eq_true, beq_iff_eq] at h
    rw [Real.Angle.coe_two_pi, ← h2, h.1.1, Real.Angle.coe_zero]
  · exact h2

/-- **The commanded end point is where the sweep ends**: if the end point lies on the circle
through the start point about the centre, it is the point at angle `start angle + travel`. -/
theorem end_at_travel (x y endX endY i j : ℝ) (cw : Bool) (hij : i ≠ 0 ∨ j ≠ 0)
    (hon : (endX - (x + i)) ^ 2 + (endY - (y + j)) ^ 2 = i * i + j * j) :
    endX = x + i + Real.cos (Complex.arg ⟨-i, -j⟩ + T.angularTravel x y endX endY i j cw) * Real.sqrt (i * i + j * j) ∧
    endY = y + j + Real.sin (Complex.arg ⟨-i, -j⟩ + T.angularTravel x y endX endY i j cw) * Real.sqrt (i * i + j * j) := by
  have hn : ‖(⟨endX - (x + i), endY - (y + j)⟩ : ℂ)‖ = ‖(⟨-i, -j⟩ : ℂ)‖ := by
    rw [norm_start, Complex.norm_def, Complex.normSq_mk, ← sq, ← sq, hon]
  have h0 := start_ne_zero hij
  have hw : starRingEnd ℂ ⟨-i, -j⟩ * ⟨endX - (x + i), endY - (y + j)⟩ =
      sweepVec x y endX endY i j := by
    apply Complex.ext <;> simp
  -- as angles, `arg z₀ + (arg z₁ - arg z₀) = arg z₁`, with `z₀` the start and `z₁` the end radius
  have ha : ((Complex.arg ⟨-i, -j⟩ + T.angularTravel x y endX endY i j cw : ℝ) : Real.Angle) =
      (Complex.arg ⟨endX - (x + i), endY - (y + j)⟩ : ℝ) := by
    rw [Real.Angle.coe_add, angularTravel_coe, ← hw,
      Complex.arg_mul_coe_angle ((map_ne_zero _).mpr h0)
        (norm_ne_zero_iff.mp (hn ▸ norm_ne_zero_iff.mpr h0)),
      Complex.arg_conj_coe_angle, add_neg_cancel_left]
  obtain ⟨e1, e2⟩ := polar ha
  rw [hn, norm_start] at e1 e2
  rw [e1, e2]
  exact ⟨(add_sub_cancel _ _).symm, (add_sub_cancel _ _).symm⟩

/-- the point of the commanded arc at parameter `t ∈ [0, 1]`: the start point at 0
(`start_on_circle`), the end point at 1 (`end_at_travel`) -/
noncomputable def arcPoint (cx cy r a travel t : ℝ) : ℝ × ℝ :=
  (cx + Real.cos (a + t * travel) * r, cy + Real.sin (a + t * travel) * r)

theorem exists_grid (n : ℕ) (hn : 1 ≤ n) (t : ℝ) (ht0 : 0 ≤ t) (ht1 : t ≤ 1) :
    ∃ k : ℕ, 1 ≤ k ∧ k ≤ n ∧ |t - (k : ℝ) / n| ≤ 1 / n := by
  have hnpos : (0 : ℝ) < n := Nat.cast_pos.mpr hn
  have h0 : 0 ≤ t * n := mul_nonneg ht0 hnpos.le
  -- the next grid point at or above `t`, raised to 1 when `t = 0`
  refine ⟨max 1 ⌈t * n⌉₊, le_max_left _ _,
    max_le hn (Nat.ceil_le.mpr (mul_le_of_le_one_left hnpos.le ht1)), ?_⟩
  have hlo : t * n ≤ (max 1 ⌈t * n⌉₊ : ℕ) :=
    (Nat.le_ceil _).trans (Nat.cast_le.mpr (le_max_right _ _))
  have hhi : ((max 1 ⌈t * n⌉₊ : ℕ) : ℝ) ≤ t * n + 1 := by
    rw [Nat.cast_max, Nat.cast_one]
    exact max_le (le_add_of_nonneg_left h0) (Nat.ceil_lt_add_one h0).le
  rw [show t - ((max 1 ⌈t * n⌉₊ : ℕ) : ℝ) / n = (t * n - (max 1 ⌈t * n⌉₊ : ℕ)) / n by
      rw [sub_div, mul_div_cancel_right₀ _ hnpos.ne'],
    abs_div, abs_of_pos hnpos, div_le_div_iff_of_pos_right hnpos, abs_le]
  exact ⟨neg_le_sub_iff_le_add.mpr hhi, (sub_nonpos.mpr hlo).trans zero_le_one⟩

/-- every point of the arc is within one unit of the point at the grid angle `k` -/
theorem arc_near_grid (cx cy r a travel : ℝ) (n : ℕ) (hn : 1 ≤ n) (hr : 0 ≤ r)
    (hseg : |travel| * r ≤ n) (t : ℝ) (ht0 : 0 ≤ t) (ht1 : t ≤ 1) :
    ∃ k : ℕ, 1 ≤ k ∧ k ≤ n ∧
      ((arcPoint cx cy r a travel t).1 - (cx + Real.cos (a + (k : ℝ) * (travel / n)) * r)) ^ 2 +
      ((arcPoint cx cy r a travel t).2 - (cy + Real.sin (a + (k : ℝ) * (travel / n)) * r)) ^ 2 ≤ 1 := by
  obtain ⟨k, hk1, hkn, hclose⟩ := exists_grid n hn t ht0 ht1
  refine ⟨k, hk1, hkn, chord_le_one cx cy r travel n hn hr hseg _ _ ?_⟩
  have : a + t * travel - (a + (k : ℝ) * (travel / n)) = (t - (k : ℝ) / n) * travel := by ring
  rw [this, abs_mul, mul_comm]
  exact (mul_le_mul_of_nonneg_left hclose (abs_nonneg _)).trans_eq (mul_one_div _ _)

/-- **Coverage.** For an I/J arc whose end point lies on the circle, every point of the commanded
arc is within one length unit of a point `planArc` hands to the region test. -/
theorem planArc_covers (p : Position ℝ) (endX endY i j : ℝ) (cw : Bool) (hij : i ≠ 0 ∨ j ≠ 0)
    (hon : (endX - (T.n2l p.x + i)) ^ 2 + (endY - (T.n2l p.y + j)) ^ 2 = i * i + j * j)
    (t : ℝ) (ht0 : 0 ≤ t) (ht1 : t ≤ 1) :
    ∃ q ∈ T.planArc p endX endY i j cw,
      ((arcPoint (T.n2l p.x + i) (T.n2l p.y + j) (Real.sqrt (i * i + j * j)) (Complex.arg ⟨-i, -j⟩)
          (T.angularTravel (T.n2l p.x) (T.n2l p.y) endX endY i j cw) t).1 - q.1) ^ 2 +
      ((arcPoint (T.n2l p.x + i) (T.n2l p.y + j) (Real.sqrt (i * i + j * j)) (Complex.arg ⟨-i, -j⟩)
          (T.angularTravel (T.n2l p.x) (T.n2l p.y) endX endY i j cw) t).2 - q.2) ^ 2 ≤ 1 := by
  obtain ⟨hn, hseg, hstruct⟩ := planArc_structure p endX endY i j cw
  obtain ⟨e1, e2⟩ := end_at_travel (T.n2l p.x) (T.n2l p.y) endX endY i j cw hij hon
  generalize T.angularTravel (T.n2l p.x) (T.n2l p.y) endX endY i j cw = travel at *
  generalize T.numSegments travel (Real.sqrt (i * i + j * j)) = n at *
  obtain ⟨k, hk1, hkn, hk⟩ := arc_near_grid (T.n2l p.x + i) (T.n2l p.y + j) (Real.sqrt (i * i + j * j))
    (Complex.arg ⟨-i, -j⟩) travel n hn (Real.sqrt_nonneg _) hseg t ht0 ht1
  obtain ⟨k, rfl⟩ := Nat.exists_eq_succ_of_ne_zero (Nat.one_le_iff_ne_zero.mp hk1)
  rw [hstruct]
  rcases hkn.eq_or_lt with hlast | hlt
  · -- the last grid point is the commanded end point
    refine ⟨(endX, endY), List.mem_append_right _ (List.mem_singleton_self _), ?_⟩
    rwa [hlast, mul_div_cancel₀ _ (Nat.cast_ne_zero.mpr (Nat.one_le_iff_ne_zero.mp hn)), ← e1,
      ← e2] at hk
  · -- the grid point `k + 1 < n` is the intermediate sample number `k`
    exact ⟨_, List.mem_append_left _ (List.mem_map_of_mem
      (List.mem_range.mpr (Nat.lt_sub_of_add_lt hlt))), hk⟩

/-- **An arc that reaches deeper into a region than the sampling resolution is detected**
(millimetres, no workspace offsets, absolute positioning): if some point of the commanded
arc has its whole closed unit disc inside one enabled region, the point loop run on `s` over the
samples of the arc sets its flag.  (The step from the flag to what `T.handleG2` returns is not
part of this theorem.) -/
theorem deep_arc_is_hit (s : FState ℝ) (endX endY i j : ℝ) (cw : Bool) (hij : i ≠ 0 ∨ j ≠ 0)
    (hx : s.position.x.absoluteMode = true) (hy : s.position.y.absoluteMode = true)
    (ux : s.position.x.unitMultiplier = 1) (uy : s.position.y.unitMultiplier = 1)
    (ox : s.position.x.offset + s.position.x.homeOffset = 0) (oy : s.position.y.offset + s.position.y.homeOffset = 0)
    (hen : s.exclusionEnabled = true)
    (hon : (endX - (T.n2l s.position.x + i)) ^ 2 + (endY - (T.n2l s.position.y + j)) ^ 2 = i * i + j * j)
    (t : ℝ) (ht0 : 0 ≤ t) (ht1 : t ≤ 1) (R : Region ℝ) (hR : R ∈ s.excludedRegions)
    (hdeep : ∀ q : ℝ × ℝ,
      ((arcPoint (T.n2l s.position.x + i) (T.n2l s.position.y + j) (Real.sqrt (i * i + j * j)) (Complex.arg ⟨-i, -j⟩)
          (T.angularTravel (T.n2l s.position.x) (T.n2l s.position.y) endX endY i j cw) t).1 - q.1) ^ 2 +
      ((arcPoint (T.n2l s.position.x + i) (T.n2l s.position.y + j) (Real.sqrt (i * i + j * j)) (Complex.arg ⟨-i, -j⟩)
          (T.angularTravel (T.n2l s.position.x) (T.n2l s.position.y) endX endY i j cw) t).2 - q.2) ^ 2 ≤ 1 →
      R.containsPoint q.1 q.2 = true) :
    (T.isAnyLoop s ((T.planArc s.position endX endY i j cw).map (fun (a, b) => (some a, some b))) false).2 = true := by
  obtain ⟨q, hq, hnear⟩ := planArc_covers s.position endX endY i j cw hij hon t ht0 ht1
  refine isAnyLoop_hit _ s false hx hy ⟨q, hq, ?_⟩
  rw [ux, uy, ox, oy, mul_one, mul_one, add_zero, add_zero, T.isPointExcluded, hen, Bool.true_and]
  exact List.any_eq_true.mpr ⟨R, hR, hdeep q hnear⟩

end ERP.C16
