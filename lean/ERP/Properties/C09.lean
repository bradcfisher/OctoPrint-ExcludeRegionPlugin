import ERP.Lemmas.Refine
import ERP.Lemmas.RealOps
import ERP.Spec.Run
import ERP.Model.Entry
import ERP.Lemmas.GenTies -- tie to /repo
/-! # C09 — Filtering is total and protocol-conformant

The faithful model makes every way the Python code can raise an explicit `Except.error`
(arithmetic on `None`, float division by zero, `math.sqrt` of a negative number, failed `assert`).
`C09_total`: from a well-formed state (all axes homed — `WF`) no sequence of commands reaches any
of them, and every result is `None`, the ignore marker, or a non-empty list. -/
namespace ERP.C09
open M

variable {α : Type} [Field α] [LinearOrder α] [IsStrictOrderedRing α] [MathOps α] [MathSpec α]

def EmitShape : Emit α → Prop
  | .result r => Result.Shape r
  | _ => True

/-- one event: the faithful step is `.ok` of the total step, well-formedness is kept -/
theorem step_total (cfg : Config) (inch : α) (hinch : inch ≠ 0) (s : FState α) (e : Ev α) (h : WF s) :
    stepE cfg inch s e = .ok (stepT cfg inch s e) ∧ WF (stepT cfg inch s e).1 ∧
    EmitShape (stepT cfg inch s e).2 := by
  cases e with
  | gcode g c =>
    obtain ⟨h1, h2, h3⟩ := handleGcode_ok cfg inch hinch s g c h
    exact ⟨by simp only [stepE, stepT, h1, ok_bind, pure_eq_ok], h2, h3⟩
  | atCmd st cmd ps =>
    obtain ⟨h1, h2⟩ := handleAtCommand_ok cfg s st cmd ps h
    exact ⟨by simp only [stepE, stepT, h1, ok_bind, pure_eq_ok], h2, trivial⟩
  | addRegion r =>
    simp only [stepE, stepT]
    cases hr : s.addRegion r with
    | ok s' => exact ⟨rfl, addRegion_WF h hr, trivial⟩
    | error _ => exact ⟨rfl, h, trivial⟩

/-- **C09.** For every sequence of commands, @-commands and region additions issued from a
well-formed (homed) state, processing never raises, the state stays well-formed, and every hook
result is `None`, the ignore marker or a non-empty list. -/
theorem C09_total (cfg : Config) (inch : α) (hinch : inch ≠ 0) (evs : List (Ev α)) :
    ∀ s : FState α, WF s →
      runE cfg inch s evs = .ok (runT cfg inch s evs) ∧ WF (runT cfg inch s evs).1 ∧
      ∀ o ∈ (runT cfg inch s evs).2, EmitShape o := by
  induction evs with
  | nil => intro s h; exact ⟨rfl, h, List.forall_mem_nil _⟩
  | cons e es ih =>
    intro s h
    obtain ⟨h1, h2, h3⟩ := step_total cfg inch hinch s e h
    obtain ⟨i1, i2, i3⟩ := ih _ h2
    refine ⟨?_, i2, ?_⟩
    · simp only [runE, h1, ok_bind, i1, pure_eq_ok, runT]
    · intro o ho
      simp only [runT, List.mem_cons] at ho
      rcases ho with rfl | ho
      · exact h3
      · exact i3 o ho

set_option linter.unusedSectionVars false in
/-- "after the axes have been homed": a fresh state is well-formed after a bare `G28` (any region
list). -/
theorem homed_WF (regions : List (Region α)) (cmd : Cmd α) (hw : cmd.words = []) :
    WF (handleG28 (FState.reset regions) cmd) := by
  unfold handleG28
  simp only [hw, hasLetter, List.any_nil, Bool.or_self, Bool.not_false, Bool.or_true, if_true]
  exact ⟨⟨⟨rfl, one_ne_zero⟩, ⟨rfl, one_ne_zero⟩, ⟨rfl, one_ne_zero⟩, ⟨rfl, one_ne_zero⟩⟩,
    one_ne_zero, fun h => absurd h Bool.false_ne_true,
    fun lr h => (Option.some_ne_none lr h.symm).elim⟩

/-- The text-level entry point: the only additional way to fail is the parser's `assert match`;
if the command text parses, `handleGcode(cmd, gcode)` on strings is total as well.
(`_partial`: the hypothesis that the text parses is discharged in `C09Text.lean`, `C09_text`:
`REGEX_GCODE_LINE` matches at every offset.) -/
theorem C09_text_partial [OfDecimal α] (cfg : Config) (inch : α) (hinch : inch ≠ 0) (s : FState α)
    (cmd gcode : Text) (c : Cmd α)
    (hp : cmdOfText cmd (String.ofList (gcode.map upperC)) = .ok c) (h : WF s) :
    ∃ s' r, handleGcodeText cfg inch s cmd gcode = .ok (s', r) ∧ WF s' ∧ Result.Shape r := by
  obtain ⟨h1, h2, h3⟩ := handleGcode_ok cfg inch hinch s (String.ofList (gcode.map upperC)) c h
  exact ⟨_, _, by simp only [handleGcodeText, hp, ok_bind, h1], h2, h3⟩

/-- Non-vacuity over ℝ: the homed initial state meets the hypotheses. -/
example : WF (handleG28 (FState.reset ([] : List (Region ℝ))) { text := "G28".toList, words := [], code := "G28" }) :=
  homed_WF [] _ rfl

end ERP.C09
