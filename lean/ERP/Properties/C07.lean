import ERP.Lemmas.Monad
import Mathlib.Tactic.Ring
import Mathlib.Tactic.FieldSimp
import Mathlib.Data.List.Nodup
-- a tie, not for its lemmas: a change of the translated source breaks it, and with it this module
import ERP.Lemmas.GenTies
import ERP.Lemmas.RetractExact
/-! # C07 — Commands synthesised by the filter are well-formed plain-decimal G-code

`formatNumber` is the model of `CommonMixin.formatNumber` applied to `str(value)`; the text CPython's
`repr` returns for a finite float has the grammar `-?D+(.D+)?(e[+-]DD+)?` (`sciText` below is the
exponent form; checked on every sample by the `text` correspondence suite). For every such text the
result is a plain decimal `-?D+(.D+)?` — no exponent — denoting exactly the same rational number.

The other commands the filter synthesises are here too: `merged_letters_nodup` (merging keeps
letters distinct), `render_templates` (the fixed templates), and, through the import of
`Lemmas/RetractExact.lean`, `render_fw` (firmware retraction and recovery). -/
namespace ERP.C07

def AllDigits (t : Text) : Prop := ∀ c ∈ t, isDigitC c = true

/-- `-?D+(.D+)?` (only names the grammar) -/
structure IsPlain (t : Text) : Prop where
  shape : ∃ (neg : Bool) (ip fp : Text), t = (if neg then ['-'] else []) ++ ip ++ (if fp = [] then [] else '.' :: fp) ∧
    ip ≠ [] ∧ AllDigits ip ∧ AllDigits fp

def natVal (d : Text) : ℚ := (digitsToNat d : ℚ)
def fracVal (d : Text) : ℚ := (digitsToNat d : ℚ) / 10 ^ d.length

/-- the rational a plain decimal `sign ip . fp` denotes -/
def plainVal (neg : Bool) (ip fp : Text) : ℚ := (if neg then -1 else 1) * (natVal ip + fracVal fp)

/-- the rational a scientific text `sign ip . fp e ex` denotes -/
def sciVal (neg : Bool) (ip fp : Text) (ex : Int) : ℚ := plainVal neg ip fp * 10 ^ ex

theorem allDigits_replicate (n : Nat) : AllDigits (List.replicate n '0') := by
  intro c hc
  rw [List.mem_replicate] at hc
  rw [hc.2]; rfl

theorem allDigits_append {a b : Text} (ha : AllDigits a) (hb : AllDigits b) : AllDigits (a ++ b) :=
  List.forall_mem_append.mpr ⟨ha, hb⟩

/-- characters `lowerC` leaves alone and that are not the separator -/
def MantChar (c : Char) : Prop := isDigitC c = true ∨ c = '-' ∨ c = '.'

theorem isDigitC_iff {c : Char} : isDigitC c = true ↔ 48 ≤ c.toNat ∧ c.toNat ≤ 57 := by
  unfold isDigitC
  simp only [Bool.and_eq_true, decide_eq_true_eq]
  rfl

theorem lowerC_digit {c : Char} (h : isDigitC c = true) : lowerC c = c := by
  have hc := isDigitC_iff.mp h
  have : ¬ ('A' ≤ c ∧ c ≤ 'Z') := fun hh => by
    have h2 : 65 ≤ c.toNat := hh.1
    omega
  simp only [lowerC, Bool.and_eq_true, decide_eq_true_eq, this, if_false]

theorem digit_ne {c : Char} (h : isDigitC c = true) (d : Char) (hd : d.toNat < 48 ∨ 57 < d.toNat) : c ≠ d := by
  intro hcd
  subst hcd
  have := isDigitC_iff.mp h
  omega

theorem map_lower_of {t : Text} (h : ∀ c ∈ t, lowerC c = c) : t.map lowerC = t :=
  (List.map_congr_left h).trans (List.map_id t)

theorem map_lower_digits (d : Text) (h : AllDigits d) : d.map lowerC = d :=
  map_lower_of fun c hc => lowerC_digit (h c hc)

theorem MantChar.lower {c : Char} (h : MantChar c) : lowerC c = c := by
  rcases h with h | rfl | rfl
  · exact lowerC_digit h
  · rfl
  · rfl

theorem MantChar.ne_e {c : Char} (h : MantChar c) : c ≠ 'e' := by
  rcases h with h | rfl | rfl
  · exact digit_ne h 'e' (by decide)
  · decide
  · decide

theorem partitionC_append (a r : Text) (sep : Char) (h : ∀ c ∈ a, c ≠ sep) :
    partitionC (a ++ r) sep = (a ++ (partitionC r sep).1, (partitionC r sep).2) := by
  have hp : ∀ c ∈ a, (c != sep) = true := fun c hc => bne_iff_ne.mpr (h c hc)
  unfold partitionC
  rw [List.takeWhile_append_of_pos hp, List.dropWhile_append_of_pos hp]
  cases List.dropWhile (· != sep) r <;> rfl

theorem partitionC_found (a b : Text) (sep : Char) (h : ∀ c ∈ a, c ≠ sep) :
    partitionC (a ++ sep :: b) sep = (a, true, b) := by
  have hs : ¬ (sep != sep) = true := by
    rw [bne_self_eq_false]
    exact Bool.false_ne_true
  have hb : partitionC (sep :: b) sep = ([], true, b) := by
    rw [partitionC, List.takeWhile_cons_of_neg (p := (· != sep)) hs,
      List.dropWhile_cons_of_neg (p := (· != sep)) hs]
  rw [partitionC_append a _ sep h, hb, List.append_nil]

theorem partitionC_none (a : Text) (sep : Char) (h : ∀ c ∈ a, c ≠ sep) :
    partitionC a sep = (a, false, []) := by
  have : partitionC (a ++ []) sep = (a ++ [], false, []) := partitionC_append a [] sep h
  rwa [List.append_nil] at this

theorem parseInt_digits (neg : Bool) (d : Text) (hd : AllDigits d) (hne : d ≠ []) :
    parseInt ((if neg then ['-'] else ['+']) ++ d) =
      .ok (if neg then -(digitsToNat d : Int) else digitsToNat d) := by
  have key : (d.isEmpty || !d.all isDigitC) = false := by
    rw [List.all_eq_true.mpr hd, List.isEmpty_eq_false_iff.mpr hne]
    rfl
  cases neg
  · exact if_neg (ne_true_of_eq_false key)
  · exact if_neg (ne_true_of_eq_false key)

/-- `repr(x)` of a finite float that uses exponent notation: `-?D+(.D+)?e[+-]D+` -/
def sciText (neg : Bool) (ip fp : Text) (eneg : Bool) (ed : Text) : Text :=
  (if neg then ['-'] else []) ++ (ip ++ (if fp = [] then [] else '.' :: fp)) ++
    'e' :: ((if eneg then ['-'] else ['+']) ++ ed)

/-- the exponent-free text `formatNumber` builds -/
def expand (neg : Bool) (ip fp : Text) (ex : Int) : Text :=
  let sign : Text := if neg then ['-'] else []
  let digits := ip ++ fp
  let pointIndex : Int := (ip.length : Int) + ex
  if pointIndex ≤ 0 then sign ++ ['0', '.'] ++ List.replicate (-pointIndex).toNat '0' ++ digits
  else if pointIndex ≥ digits.length then sign ++ digits ++ List.replicate (pointIndex.toNat - digits.length) '0'
  else sign ++ digits.take pointIndex.toNat ++ ['.'] ++ digits.drop pointIndex.toNat

theorem allDigits_ne_of (d : Text) (h : AllDigits d) (sep : Char) (hs : sep.toNat < 48 ∨ 57 < sep.toNat) :
    ∀ c ∈ d, c ≠ sep := fun c hc => digit_ne (h c hc) sep hs

theorem mantChar_mantissa (neg : Bool) {ip fp : Text} (dip : AllDigits ip) (dfp : AllDigits fp) :
    ∀ c ∈ (if neg then ['-'] else []) ++ (ip ++ (if fp = [] then [] else '.' :: fp)), MantChar c := by
  intro c hc
  simp only [List.mem_append] at hc
  rcases hc with h | h | h
  · cases neg
    · cases h
    · exact .inr (.inl (List.mem_singleton.mp h))
  · exact .inl (dip c h)
  · split at h
    · cases h
    · rcases List.mem_cons.mp h with rfl | h
      · exact .inr (.inr rfl)
      · exact .inl (dfp c h)

/-- **`formatNumber` on exponent notation** computes exactly `expand`. -/
theorem formatNumber_sci (neg : Bool) (ip fp : Text) (eneg : Bool) (ed : Text)
    (hip : ip ≠ []) (dip : AllDigits ip) (dfp : AllDigits fp) (ded : AllDigits ed) (hed : ed ≠ []) :
    formatNumber (sciText neg ip fp eneg ed) =
      .ok (expand neg ip fp (if eneg then -(digitsToNat ed : Int) else digitsToNat ed)) := by
  have hmant := mantChar_mantissa neg dip dfp
  have hlow : (sciText neg ip fp eneg ed).map lowerC = sciText neg ip fp eneg ed := by
    rw [sciText, List.map_append, map_lower_of fun c hc => (hmant c hc).lower, List.map_cons, List.map_append,
      map_lower_digits ed ded]
    cases eneg <;> rfl
  have hpart : partitionC (sciText neg ip fp eneg ed) 'e' =
      ((if neg then ['-'] else []) ++ (ip ++ (if fp = [] then [] else '.' :: fp)), true,
        (if eneg then ['-'] else ['+']) ++ ed) := partitionC_found _ _ 'e' fun c hc => (hmant c hc).ne_e
  have hexp := parseInt_digits eneg ed ded hed
  have hdot : partitionC (ip ++ (if fp = [] then [] else '.' :: fp)) '.' = (ip, !(fp = []), fp) := by
    by_cases hf : fp = []
    · rw [if_pos hf, List.append_nil, partitionC_none ip '.' (allDigits_ne_of ip dip '.' (by decide)), hf]
      rfl
    · rw [if_neg hf, partitionC_found ip fp '.' (allDigits_ne_of ip dip '.' (by decide)), decide_eq_false hf]
      rfl
  obtain ⟨c0, ip', rfl⟩ := List.exists_cons_of_ne_nil hip
  have hc0 := dip c0 List.mem_cons_self
  generalize (if eneg = true then -(digitsToNat ed : Int) else (digitsToNat ed : Int)) = ex at hexp ⊢
  unfold formatNumber
  rw [hlow, hpart]
  simp only [Bool.not_true, Bool.false_eq_true, if_false]
  -- what is left on both sides is the same three-way case distinction on the position of the point
  cases neg with
  | true =>
    simp only [if_true, List.singleton_append, beq_self_eq_true, Bool.or_true]
    rw [hdot, hexp]
    simp only [M.ok_bind, expand, if_true, apply_ite Except.ok]
    rfl
  | false =>
    have n1 : (c0 == '+') = false := beq_eq_false_iff_ne.mpr (digit_ne hc0 '+' (by decide))
    have n2 : (c0 == '-') = false := beq_eq_false_iff_ne.mpr (digit_ne hc0 '-' (by decide))
    simp only [Bool.false_eq_true, if_false, List.nil_append, List.cons_append, n1, n2, Bool.or_self]
    rw [show c0 :: (ip' ++ if fp = [] then [] else '.' :: fp) = (c0 :: ip') ++ (if fp = [] then [] else '.' :: fp) from rfl,
      hdot, hexp]
    simp only [M.ok_bind, expand, Bool.false_eq_true, if_false, List.nil_append, apply_ite Except.ok]
    rfl

theorem natVal_fracVal (ip fp : Text) :
    natVal ip + fracVal fp = (digitsToNat (ip ++ fp) : ℚ) / 10 ^ fp.length := by
  unfold natVal fracVal
  rw [digitsToNat_append]
  have : (10 : ℚ) ^ fp.length ≠ 0 := pow_ne_zero _ (by norm_num)
  field_simp
  push_cast
  ring

theorem allDigits_take {d : Text} (h : AllDigits d) (n : Nat) : AllDigits (d.take n) :=
  fun c hc => h c (List.mem_of_mem_take hc)
theorem allDigits_drop {d : Text} (h : AllDigits d) (n : Nat) : AllDigits (d.drop n) :=
  fun c hc => h c (List.mem_of_mem_drop hc)

theorem scale_eq (N : ℚ) (j a m : ℕ) (ex : ℤ) (h : (j : ℤ) + m = ex + a) :
    N * 10 ^ j / 10 ^ a = N / 10 ^ m * 10 ^ ex := by
  have ten : (10 : ℚ) ≠ 0 := by norm_num
  rw [div_eq_mul_inv, div_eq_mul_inv, ← zpow_natCast, ← zpow_natCast, ← zpow_natCast, ← zpow_neg, ← zpow_neg,
    mul_assoc, mul_assoc, ← zpow_add₀ ten, ← zpow_add₀ ten]
  congr 2
  omega

/-- **The expanded text is a plain decimal denoting the same number.** -/
theorem expand_spec (neg : Bool) (ip fp : Text) (ex : Int) (hip : ip ≠ [])
    (dip : AllDigits ip) (dfp : AllDigits fp) :
    ∃ ip' fp', expand neg ip fp ex = (if neg then ['-'] else []) ++ ip' ++ (if fp' = [] then [] else '.' :: fp') ∧
      ip' ≠ [] ∧ AllDigits ip' ∧ AllDigits fp' ∧
      plainVal neg ip' fp' = sciVal neg ip fp ex := by
  have hdig : AllDigits (ip ++ fp) := allDigits_append dip dfp
  have hl : (ip ++ fp).length = ip.length + fp.length := List.length_append
  have hipl : 0 < ip.length := List.length_pos_of_ne_nil hip
  -- In each of the three shapes the digits of the result are those of `ip ++ fp`, with zeros in
  -- front (which do not count) or `j` zeros behind; the value then depends only on where the point is.
  suffices hs : ∃ (ip' fp' : Text) (j : ℕ),
      expand neg ip fp ex = (if neg then ['-'] else []) ++ ip' ++ (if fp' = [] then [] else '.' :: fp') ∧
      ip' ≠ [] ∧ AllDigits ip' ∧ AllDigits fp' ∧
      digitsToNat (ip' ++ fp') = digitsToNat (ip ++ fp) * 10 ^ j ∧ (j : ℤ) + fp.length = ex + fp'.length by
    obtain ⟨ip', fp', j, h1, h2, h3, h4, h5, h6⟩ := hs
    refine ⟨ip', fp', h1, h2, h3, h4, ?_⟩
    unfold plainVal sciVal plainVal
    rw [natVal_fracVal, natVal_fracVal, h5, Nat.cast_mul, Nat.cast_pow, Nat.cast_ofNat,
      scale_eq _ j _ fp.length ex h6]
    ring
  unfold expand
  simp only
  by_cases h1 : (ip.length : Int) + ex ≤ 0
  · -- 0.000ddd
    obtain ⟨k, hk⟩ : ∃ k : Nat, (-((ip.length : Int) + ex)).toNat = k := ⟨_, rfl⟩
    rw [if_pos h1, hk]
    refine ⟨['0'], List.replicate k '0' ++ (ip ++ fp), 0, ?_, List.cons_ne_nil _ _, ?_,
      allDigits_append (allDigits_replicate _) hdig, ?_, ?_⟩
    · rw [if_neg (List.append_ne_nil_of_right_ne_nil _ (List.append_ne_nil_of_left_ne_nil hip _))]
      simp only [List.append_assoc, List.cons_append, List.nil_append]
    · intro c hc
      rw [List.mem_singleton.mp hc]
      rfl
    · exact (digitsToNat_zeros_append (k + 1) (ip ++ fp)).trans (Nat.mul_one _).symm
    · rw [List.length_append, List.length_replicate, hl]
      push_cast
      omega
  · by_cases h2 : (ip.length : Int) + ex ≥ ((ip ++ fp).length : Int)
    · -- ddd000
      obtain ⟨k, hk⟩ : ∃ k : Nat, ((ip.length : Int) + ex).toNat - (ip ++ fp).length = k := ⟨_, rfl⟩
      rw [if_neg h1, if_pos h2, hk]
      refine ⟨ip ++ fp ++ List.replicate k '0', [], k, ?_, ?_, allDigits_append hdig (allDigits_replicate _),
        (fun c hc => nomatch hc : AllDigits []), ?_, ?_⟩
      · rw [if_pos rfl, List.append_nil, List.append_assoc]
      · exact List.append_ne_nil_of_left_ne_nil (List.append_ne_nil_of_left_ne_nil hip _) _
      · rw [List.append_nil, digitsToNat_append_zeros]
      · rw [hl] at h2 hk
        simp only [List.length_nil]
        push_cast at h2 ⊢
        omega
    · -- dd.ddd
      obtain ⟨k, hk⟩ : ∃ k : Nat, ((ip.length : Int) + ex).toNat = k := ⟨_, rfl⟩
      rw [if_neg h1, if_neg h2, hk]
      have hlt : k < (ip ++ fp).length := by omega
      refine ⟨(ip ++ fp).take k, (ip ++ fp).drop k, 0, ?_, ?_, allDigits_take hdig _, allDigits_drop hdig _, ?_, ?_⟩
      · rw [if_neg (List.drop_eq_nil_iff.not.mpr (Nat.not_le.mpr hlt))]
        simp only [List.append_assoc, List.cons_append, List.nil_append]
      · rw [Ne, List.take_eq_nil_iff, not_or]
        exact ⟨by omega, List.append_ne_nil_of_left_ne_nil hip _⟩
      · rw [List.take_append_drop, pow_zero, Nat.mul_one]
      · rw [List.length_drop, hl]
        rw [hl] at hlt
        push_cast [Nat.cast_sub hlt.le]
        omega

/-- a text without exponent is returned unchanged -/
theorem formatNumber_plain (t : Text) (h : ∀ c ∈ t, lowerC c ≠ 'e') : formatNumber t = .ok t := by
  unfold formatNumber
  rw [partitionC_none (t.map lowerC) 'e' (by
    intro c hc
    obtain ⟨c', hc', rfl⟩ := List.mem_map.mp hc
    exact h c' hc')]
  rfl

/-- **C07 (numbers).** A `repr` text in exponent form (`sciText`) becomes a plain decimal denoting
exactly the same number; the exponent-free case is `formatNumber_plain`, the identity. -/
theorem C07_plain (neg : Bool) (ip fp : Text) (eneg : Bool) (ed : Text)
    (hip : ip ≠ []) (dip : AllDigits ip) (dfp : AllDigits fp) (ded : AllDigits ed) (hed : ed ≠ []) :
    ∃ t ip' fp', formatNumber (sciText neg ip fp eneg ed) = .ok t ∧
      t = (if neg then ['-'] else []) ++ ip' ++ (if fp' = [] then [] else '.' :: fp') ∧
      ip' ≠ [] ∧ AllDigits ip' ∧ AllDigits fp' ∧
      plainVal neg ip' fp' = sciVal neg ip fp (if eneg then -(digitsToNat ed : Int) else digitsToNat ed) := by
  obtain ⟨ip', fp', h1, h2, h3, h4, h5⟩ := expand_spec neg ip fp
    (if eneg then -(digitsToNat ed : Int) else digitsToNat ed) hip dip dfp
  exact ⟨_, ip', fp', formatNumber_sci neg ip fp eneg ed hip dip dfp ded hed, h1, h2, h3, h4, h5⟩

/-- `repr(1e-05)`: CPython switches to the exponent form below `1e-4` -/
example : formatNumber "1e-05".toList = .ok "0.00001".toList := by decide +kernel
example : formatNumber "-1.5e-07".toList = .ok "-0.00000015".toList := by decide +kernel
example : formatNumber "1e+16".toList = .ok "10000000000000000".toList := by decide +kernel
example : formatNumber "2.5".toList = .ok "2.5".toList := by decide +kernel

theorem argsSet_nodup {α : Type} (a : List (Char × Option α)) (k : Char) (v : Option α)
    (h : (a.map (·.1)).Nodup) : ((argsSet a k v).map (·.1)).Nodup := by
  unfold argsSet
  split
  · -- a letter already there: its value is replaced, the letters stay
    have : (a.map (fun p => if (p.1 == k) = true then (k, v) else p)).map (·.1) = a.map (·.1) := by
      rw [List.map_map]
      refine List.map_congr_left fun p _ => ?_
      show (if (p.1 == k) = true then (k, v) else p).1 = p.1
      split
      · rename_i hp; exact (beq_iff_eq.mp hp).symm
      · rfl
    rw [this]; exact h
  · -- a new letter: appended, and by the test not among the old ones
    rename_i hany
    rw [List.map_append]
    refine List.Nodup.append h (List.nodup_singleton k) fun c hc hk => hany ?_
    obtain ⟨p, hp, e⟩ := List.mem_map.mp hc
    exact List.any_eq_true.mpr ⟨p, hp, beq_iff_eq.mpr (e.trans (List.mem_singleton.mp hk))⟩

/-- **Merging keeps parameter letters distinct**: one fold of `argsSet` over a word list. -/
theorem merged_letters_nodup {α : Type} (w : List (Char × Option α)) :
    ∀ a : List (Char × Option α), (a.map (·.1)).Nodup →
      ((w.foldl (fun a (kv : Char × Option α) => argsSet a kv.1 kv.2) a).map (·.1)).Nodup := by
  induction w with
  | nil => intro a h; exact h
  | cons kv rest ih => intro a h; exact ih _ (argsSet_nodup a kv.1 kv.2 h)

/-- the fixed templates of the other synthesised commands -/
theorem render_templates {α : Type} (nt : α → Text) (f x y z e : α) (tf tx ty tz te : Text)
    (hf : fmtNum nt f = .ok tf) (hx : fmtNum nt x = .ok tx) (hy : fmtNum nt y = .ok ty)
    (hz : fmtNum nt z = .ok tz) (he : fmtNum nt e = .ok te) :
    render nt (.g92e e) = .ok ("G92 E".toList ++ te) ∧
    render nt (.g0z f z) = .ok ("G0 F".toList ++ tf ++ " Z".toList ++ tz) ∧
    render nt (.g0xy f x y) = .ok ("G0 F".toList ++ tf ++ " X".toList ++ tx ++ " Y".toList ++ ty) ∧
    render nt (.g1fe f e) = .ok ("G1 F".toList ++ tf ++ " E".toList ++ te) := by
  simp only [render, hf, hx, hy, hz, he, M.ok_bind, and_self]

end ERP.C07
