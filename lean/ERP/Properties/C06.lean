import Mathlib.Data.List.Nodup
import ERP.Lemmas.Refine
import ERP.Lemmas.Ctrl
import ERP.Lemmas.GenTies -- tie to /repo
/-! # C06 — Deferred G-codes and enter/exit scripts: exactly once per exclusion episode

The end of an episode returns the deferred commands, the exit script, then re-synchronisation
only (`exit_structure`); a move returns the enter script iff it opens an episode, the exit script
iff it closes one (`scripts_exactly_on_transitions`). `pendStep`: one stored entry per configured
code — first, last or merged values. Outside an episode nothing is stored (`NoLeak`). -/
namespace ERP.C06

section
variable {α : Type}

def isScript : Out α → Bool
  | .script _ _ => true
  | _ => false

def scriptPart (l : List (Out α)) : List (Out α) := l.filter isScript

theorem scriptPart_append (a b : List (Out α)) : scriptPart (a ++ b) = scriptPart a ++ scriptPart b :=
  List.filter_append ..

theorem scriptPart_none (l : List (Out α)) (h : ∀ o ∈ l, isScript o = false) : scriptPart l = [] := by
  simp only [scriptPart, List.filter_eq_nil_iff]
  intro o ho
  rw [h o ho]
  exact Bool.false_ne_true

theorem scriptPart_all (l : List (Out α)) (h : ∀ o ∈ l, isScript o = true) : scriptPart l = l := by
  simp only [scriptPart, List.filter_eq_self]
  exact h

theorem enterLines_scripts (cfg : Config) : ∀ o ∈ (enterLines cfg : List (Out α)), isScript o = true := by
  intro o ho
  obtain ⟨_, _, t, _, rfl⟩ := mem_enterLines ho
  rfl

theorem exitLines_scripts (cfg : Config) : ∀ o ∈ (exitLines cfg : List (Out α)), isScript o = true := by
  intro o ho
  obtain ⟨_, _, t, _, rfl⟩ := mem_exitLines ho
  rfl

theorem _root_.ERP.ESynth.noScript {o : Out α} (h : ESynth o) : isScript o = false := by
  cases o with
  | script b t => exact h.elim
  | _ => rfl

theorem _root_.ERP.NonMoveOuts.scriptPart {e : Bool} {c : Cmd α} {l : List (Out α)}
    (h : NonMoveOuts e c l) : scriptPart l = [] :=
  scriptPart_none l (h.all rfl fun _ => ESynth.noScript)

theorem flush_noScript (pending : List (String × Pending α)) : ∀ o ∈ flush pending, isScript o = false := by
  intro o ho
  obtain ⟨e, _, rfl⟩ := List.mem_map.mp ho
  obtain ⟨g, p⟩ := e
  cases p <;> rfl

/-- the re-synchronisation commands at the end of an exit sequence -/
def IsResync : Out α → Prop
  | .g92e _ | .g0z _ _ | .g0xy _ _ _ => True
  | _ => False

/-- nothing deferred leaks out of an episode -/
def NoLeak (s : FState α) : Prop := s.excluding = false → s.pendingCommands = []

theorem processExtendedGcode_noLeak (cfg : Config) (s : FState α) (cmd : Cmd α) (g : String)
    (hn : NoLeak s) : NoLeak (s.processExtendedGcode cfg cmd g).1 := by
  rcases processExtendedGcode_cases cfg s cmd g with e | ⟨hex, m, e⟩ <;> rw [e]
  · exact hn
  · intro h
    rw [processExtendedGcodeEntry_frame] at h
    exact nomatch hex.symm.trans h

def keys (p : List (String × Pending α)) : List String := p.map (·.1)

theorem keys_pop (p : List (String × Pending α)) (g : String) :
    keys (pendingPop p g) = (keys p).filter (fun k => !(k == g)) := by
  unfold keys pendingPop
  rw [List.filter_map]
  rfl

theorem pendingGet_none_iff (p : List (String × Pending α)) (g : String) :
    pendingGet p g = none ↔ g ∉ keys p := by
  unfold pendingGet keys
  simp only [Option.map_eq_none_iff, List.find?_eq_none, beq_iff_eq, List.mem_map, not_exists, not_and]

theorem not_mem_keys_pop (p : List (String × Pending α)) (g : String) : g ∉ keys (pendingPop p g) := by
  rw [keys_pop]
  intro h
  have := (List.mem_filter.mp h).2
  rw [beq_self_eq_true] at this
  cases this

theorem keys_snoc_nodup {q : List (String × Pending α)} {g : String} (hq : (keys q).Nodup)
    (hg : g ∉ keys q) (x : Pending α) : (keys (q ++ [(g, x)])).Nodup := by
  unfold keys at *
  rw [List.map_append]
  refine hq.append (List.nodup_singleton g) fun a ha hb => hg ?_
  rwa [show a = g from List.mem_singleton.mp hb] at ha

/-- latest value of a letter in an argument list -/
def argGet (a : List (Char × Option α)) (k : Char) : Option (Option α) :=
  (a.find? (fun p => p.1 == k)).map (·.2)

theorem argGet_argsSet (a : List (Char × Option α)) (k k' : Char) (v : Option α) :
    argGet (argsSet a k v) k' = if k' = k then some v else argGet a k' := by
  unfold argsSet argGet
  split
  · rename_i hany
    -- the update keeps every key, so the search finds the same entry, updated
    have hkey : ((fun p : Char × Option α => p.1 == k') ∘ fun p => if p.1 == k then (k, v) else p)
        = fun p => p.1 == k' := by
      funext p; dsimp only [Function.comp]; split
      · rename_i h; rw [beq_iff_eq.mp h]
      · rfl
    rw [List.find?_map, Option.map_map, hkey]
    cases hf : a.find? (fun p => p.1 == k') with
    | none =>
      split
      · subst k'
        obtain ⟨p, hp, hpk⟩ := List.any_eq_true.mp hany
        exact absurd hpk (List.find?_eq_none.mp hf p hp)
      · rfl
    | some q =>
      have hq : q.1 = k' :=
        beq_iff_eq.mp (List.find?_some (p := fun p : Char × Option α => p.1 == k') hf)
      simp only [Option.map_some, Function.comp, hq, beq_iff_eq]
      split <;> rfl
  · rename_i hany
    rw [List.find?_append]
    cases hf : a.find? (fun p => p.1 == k') with
    | some q =>
      have hq : q.1 = k' :=
        beq_iff_eq.mp (List.find?_some (p := fun p : Char × Option α => p.1 == k') hf)
      have : k' ≠ k := fun h => hany (List.any_eq_true.mpr ⟨q, List.mem_of_find?_eq_some hf,
        by rw [hq, h]; exact BEq.rfl⟩)
      simp only [List.find?_singleton, beq_iff_eq, Option.some_or, Option.map_some, this, if_false]
    | none =>
      simp only [Option.none_or, List.find?_cons, List.find?_nil, Option.map_none]
      by_cases h : k' = k
      · subst h; simp only [BEq.rfl, Option.map_some, if_true]
      · have : (k == k') = false := beq_eq_false_iff_ne.mpr (Ne.symm h)
        simp only [this, Option.map_none, h, if_false]

end

section
variable {α : Type} [Field α] [LinearOrder α]

theorem NoLeak.of_touch {s s' : FState α} (h : ETouch s s') (hn : NoLeak s) : NoLeak s' := by
  intro hex
  rw [h.pending]
  exact hn (h.excluding ▸ hex)

variable [MathOps α]

theorem plm_noLeak (cfg : Config) (s : FState α) (cmd : Cmd α) (ep fr fz : Option α)
    (xy : List (Option α × Option α)) (hn : NoLeak s) :
    NoLeak (T.processLinearMoves cfg s cmd ep fr fz xy).1 := by
  have c := plm_ctrl cfg s cmd ep fr fz xy
  intro hex
  rw [c.pending]
  rw [c.excluding] at hex
  cases hm : T.isMoveOf fz xy <;> rw [hm] at hex
  · exact (if_neg Bool.false_ne_true).trans (hn hex)
  · cases hs : s.excluding
    · rw [Bool.and_false, if_neg Bool.false_ne_true]; exact hn hs
    · rw [if_pos rfl] at hex; rw [hex]; rfl

end

variable {α : Type} [Field α] [LinearOrder α] [IsStrictOrderedRing α] [MathOps α] [MathSpec α]

set_option linter.unusedSectionVars false in
/-- **What `exitExcludedRegion` returns** (through which every episode ends): the deferred
commands, then the exit script, then only re-synchronisation commands (`G92 E`, `G0 … Z`,
`G0 … X Y`); afterwards nothing is pending. -/
theorem exit_structure (cfg : Config) (s : FState α) (hex : s.excluding = true) :
    ∃ resync, (T.exitExcludedRegion cfg s).2 = flush s.pendingCommands ++ exitLines cfg ++ resync ∧
      (∀ o ∈ resync, IsResync o) ∧ resync ≠ [] ∧
      (T.exitExcludedRegion cfg s).1.pendingCommands = [] ∧ (T.exitExcludedRegion cfg s).1.excluding = false := by
  refine ⟨exitTail s, ?_, fun o ho => ?_, ?_, ?_, ?_⟩
  · rw [exit_outputs cfg s hex, processPendingCommands_snd]
  · rcases exitTail_mem ho with ⟨_, rfl⟩ | ⟨_, _, rfl⟩ | ⟨_, _, _, rfl⟩ <;> trivial
  · refine List.ne_nil_of_mem (a := Out.g92e (T.n2l s.position.e)) ?_
    unfold exitTail
    simp only [List.mem_append, List.mem_singleton, true_or]
  · rw [exitExcludedRegion_fst, if_pos hex]
  · rw [exitExcludedRegion_fst, if_pos hex]

theorem exit_scriptPart (cfg : Config) (s : FState α) (hex : s.excluding = true) :
    scriptPart (T.exitExcludedRegion cfg s).2 = exitLines cfg := by
  obtain ⟨resync, h1, h2, -⟩ := exit_structure cfg s hex
  rw [h1, scriptPart_append, scriptPart_append, scriptPart_none _ (flush_noScript _),
    scriptPart_all _ (exitLines_scripts cfg), scriptPart_none resync, List.nil_append,
    List.append_nil]
  intro o ho
  have := h2 o ho
  cases o with
  | script b t => exact this.elim
  | _ => rfl

/-- **Scripts, exactly once.** The script lines among the commands returned for a move are: the
enter script iff this move opens an episode, the exit script iff it closes one, nothing otherwise. -/
theorem scripts_exactly_on_transitions (cfg : Config) (s : FState α) (cmd : Cmd α) (ep fr fz : Option α)
    (xy : List (Option α × Option α)) (h : WF s) :
    let r := T.processLinearMoves cfg s cmd ep fr fz xy
    scriptPart (fwdOf cmd r.2) =
      if !s.excluding && r.1.excluding then enterLines cfg
      else if s.excluding && !r.1.excluding then exitLines cfg
      else [] := by
  intro r
  have hx := (plm_touch cfg s cmd ep fr fz xy).excluding
  dsimp only at hx
  simp only [r]
  rw [hx]
  refine (plm_cases cfg s cmd ep fr fz xy (fun hm => ?_) (fun hm hh => ?_) (fun hm hh hs => ?_)
    (fun hm hh hs _ => ?_) (fun hm hh hs _ => ?_)).elim
    fun q h => by rw [h.1, fwdOf_toResult]; exact h.2
  · rw [hm, if_neg Bool.false_ne_true, (nonMoveBody_outs _ cmd _ _).scriptPart]
    cases s.excluding <;> rfl
  · obtain ⟨more, e, hmore⟩ :=
      processExcludedMove_outs cfg (tracked s ep fr fz xy) cmd (T.deltaEOf s ep)
    rw [hm, hh, if_pos rfl]
    dsimp only
    rw [e, scriptPart_append, scriptPart_none more fun o ho => (hmore o ho).noScript,
      List.append_nil, tracked_excluding]
    cases s.excluding
    · exact scriptPart_all _ (enterLines_scripts cfg)
    · rfl
  · rw [hm, hh, hs, if_pos rfl]
    exact exit_scriptPart cfg _ hs
  · rw [hm, hh, hs, if_pos rfl]
    exact (recoverBranch_outs _ cmd false _).scriptPart
  · rw [hm, hh, hs, if_pos rfl]
    rfl

/-- one deferred command arriving during an episode: what it does to `pendingCommands` -/
def pendStep (pending : List (String × Pending α)) (mode : Mode) (g : String) (cmd : Cmd α) :
    List (String × Pending α) :=
  match mode with
  | .exclude => pending
  | .first => if (pendingGet pending g).isSome then pending else pending ++ [(g, .cmd cmd)]
  | .last => pendingPop pending g ++ [(g, .cmd cmd)]
  | .merge =>
    let old := match pendingGet pending g with
      | some (.args a) => a
      | _ => []
    pendingPop pending g ++ [(g, .args (cmd.words.foldl (fun a (k, v) => argsSet a k v) old))]

set_option linter.unusedSectionVars false in
/-- **Withheld.** During an episode a code configured as exclude/first/last/merge is withheld
(the hook returns the ignore marker) and recorded by `pendStep`; a code that is not configured
passes through untouched. Outside an episode nothing is withheld or recorded. -/
theorem deferred_withheld (cfg : Config) (s : FState α) (cmd : Cmd α) (g : String) (hg : g ≠ "") :
    s.processExtendedGcode cfg cmd g =
      if s.excluding then
        match cfg.mode g with
        | some m => ({ s with pendingCommands := pendStep s.pendingCommands m g cmd }, .ignore)
        | none => (s, .none)
      else (s, .none) := by
  unfold FState.processExtendedGcode
  have : g.isEmpty = false := by
    cases h : g.isEmpty
    · rfl
    · exact absurd (String.isEmpty_iff.mp h) hg
  by_cases he : s.excluding = true
  · rw [if_pos he, if_pos (by simp only [this, Bool.not_false, he, Bool.and_self])]
    cases cfg.mode g with
    | none => rfl
    | some m =>
      dsimp only
      unfold FState.processExtendedGcodeEntry pendStep
      cases m
      · rfl
      · dsimp only
        cases pendingGet s.pendingCommands g <;> rfl
      · rfl
      · rfl
  · rw [if_neg he, if_neg (by simp only [he, Bool.and_false, Bool.false_eq_true, not_false_eq_true])]

set_option linter.unusedSectionVars false in
/-- **No leak**, one G-code command. -/
theorem gcode_noLeak (cfg : Config) (inch : α) (s : FState α) (g : String) (cmd : Cmd α) (h : WF s)
    (hn : NoLeak s) : NoLeak (T.handleGcode cfg inch s g cmd).1 :=
  handleGcode_kinds (motive := fun r => NoLeak r.1) cfg inch s g cmd hn
    (fun _ _ _ _ _ => plm_noLeak cfg s cmd _ _ _ _ hn)
    (toResult_fst _ ▸ NoLeak.of_touch (recordRetraction_touch s _) hn)
    (toResult_fst _ ▸ NoLeak.of_touch (recoverIfNeeded_touch s cmd true) hn) (fun _ _ => hn)
    (processExtendedGcode_noLeak cfg s cmd g hn)

set_option linter.unusedSectionVars false in
/-- a new print starts with nothing pending (`resetState`) -/
theorem reset_noLeak (regions : List (Region α)) : NoLeak (FState.reset regions) := fun _ => rfl

set_option linter.unusedSectionVars false in
/-- the after-print hook and the disable @-command end the episode through `exitExcludedRegion`,
which leaves nothing pending -/
theorem exit_noLeak (cfg : Config) (s : FState α) (hn : NoLeak s) :
    NoLeak (T.exitExcludedRegion cfg s).1 := by
  rw [exitExcludedRegion_fst]
  split
  · intro _; rfl
  · exact hn

set_option linter.unusedSectionVars false in
/-- **One entry per code**: a step keeps the recorded codes pairwise distinct. -/
theorem pendStep_nodup (p : List (String × Pending α)) (m : Mode) (g : String) (c : Cmd α)
    (h : (keys p).Nodup) : (keys (pendStep p m g c)).Nodup := by
  have hpop : ∀ x : Pending α, (keys (pendingPop p g ++ [(g, x)])).Nodup := fun x =>
    keys_snoc_nodup (keys_pop p g ▸ h.filter _) (not_mem_keys_pop p g) x
  unfold pendStep
  cases m with
  | exclude => exact h
  | first =>
    dsimp only
    split
    · exact h
    · rename_i hn
      have hnone : pendingGet p g = none := by
        simpa only [Bool.not_eq_true, Option.isSome_eq_false_iff, Option.isNone_iff_eq_none] using hn
      exact keys_snoc_nodup h ((pendingGet_none_iff p g).mp hnone) _
  | last => exact hpop _
  | merge => exact hpop _

set_option linter.unusedSectionVars false in
theorem flush_length (p : List (String × Pending α)) : (flush p).length = p.length :=
  List.length_map _

set_option linter.unusedSectionVars false in
/-- exclude-mode codes yield nothing -/
theorem pendStep_exclude (p : List (String × Pending α)) (g : String) (c : Cmd α) :
    pendStep p .exclude g c = p := rfl

set_option linter.unusedSectionVars false in
/-- `first`: the first instance is retained, later ones change nothing -/
theorem pendStep_first (p : List (String × Pending α)) (g : String) (c : Cmd α) :
    (g ∈ keys p → pendStep p .first g c = p) ∧
    (g ∉ keys p → pendStep p .first g c = p ++ [(g, .cmd c)]) := by
  unfold pendStep
  constructor
  · intro hg
    cases hp : pendingGet p g with
    | none => exact absurd hg ((pendingGet_none_iff p g).mp hp)
    | some v => rfl
  · intro hg
    rw [(pendingGet_none_iff p g).mpr hg]
    rfl

set_option linter.unusedSectionVars false in
/-- `last`: the latest instance replaces any earlier one and moves to the end (so entries are
ordered by their retained — last — occurrence) -/
theorem pendStep_last (p : List (String × Pending α)) (g : String) (c : Cmd α) :
    pendStep p .last g c = pendingPop p g ++ [(g, .cmd c)] := rfl

set_option linter.unusedSectionVars false in
/-- other codes' entries are untouched, in content and relative order -/
theorem pendStep_others (p : List (String × Pending α)) (m : Mode) (g : String) (c : Cmd α) :
    (pendStep p m g c).filter (fun e => !(e.1 == g)) = p.filter (fun e => !(e.1 == g)) := by
  have hpop : ∀ x : Pending α, (pendingPop p g ++ [(g, x)]).filter (fun e => !(e.1 == g)) =
      p.filter (fun e => !(e.1 == g)) := by
    intro x
    simp only [pendingPop, List.filter_append, List.filter_filter, Bool.and_self, BEq.rfl,
      Bool.not_true, Bool.false_eq_true, not_false_eq_true, List.filter_cons_of_neg,
      List.filter_nil, List.append_nil]
  unfold pendStep
  cases m with
  | exclude => rfl
  | first =>
    simp only
    split
    · rfl
    · simp only [List.filter_append, BEq.rfl, Bool.not_true, Bool.false_eq_true,
        not_false_eq_true, List.filter_cons_of_neg, List.filter_nil, List.append_nil]
  | last => exact hpop _
  | merge => exact hpop _

set_option linter.unusedSectionVars false in
/-- **`merge`: one command carrying the latest value of every parameter seen.** After merging the
words `w` into the arguments `a`, a letter that occurs in `w` carries its last value in `w`, every
other letter keeps what it had. -/
theorem merge_latest (w : List (Char × Option α)) :
    ∀ (a : List (Char × Option α)) (k : Char),
      argGet (w.foldl (fun a (kv : Char × Option α) => argsSet a kv.1 kv.2) a) k =
        match (w.reverse.find? (fun p => p.1 == k)) with
        | some p => some p.2
        | none => argGet a k := by
  induction w with
  | nil => intro a k; rfl
  | cons kv rest ih =>
    intro a k
    simp only [List.foldl_cons, List.reverse_cons, List.find?_append]
    rw [ih]
    cases hr : rest.reverse.find? (fun p => p.1 == k) with
    | some p => simp only [List.find?_singleton, beq_iff_eq, Option.some_or]
    | none =>
      simp only [Option.none_or, List.find?_cons, List.find?_nil]
      rw [argGet_argsSet]
      by_cases hk : k = kv.1
      · subst hk; simp only [if_true, BEq.rfl]
      · have : (kv.1 == k) = false := beq_eq_false_iff_ne.mpr fun h => hk h.symm
        simp only [hk, if_false, this]

end ERP.C06
