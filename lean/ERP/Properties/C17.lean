import ERP.Lemmas.Spec
import ERP.Lemmas.GenTies
/-! # C17 — Region geometry: the tests decide what they are meant to decide

About `Region` of `Model/Region.lean`, over any linearly ordered field with a lawful `hypot`
(`MathSpec`; instance for ℝ in `RealOps`): the point tests, soundness of `containsRegion`, its
exactness for proper inner regions, the degenerate and touching cases. -/
namespace ERP.C17
set_option linter.unusedSectionVars false

open _root_.ERP.MathOps (hypot)
open _root_.ERP.MathSpec (hypot_nonneg)

section
variable {α : Type} [LinearOrder α] [Add α] [Sub α] [MathOps α]
variable {i j : String} {x1 y1 x2 y2 ox1 oy1 ox2 oy2 cx cy r ocx ocy orr x y : α}

theorem rect_containsPoint_iff : (Region.rect i x1 y1 x2 y2).containsPoint x y = true ↔
    (x1 ≤ x ∧ x ≤ x2) ∧ y1 ≤ y ∧ y ≤ y2 := by
  simp only [Region.containsPoint, Bool.and_eq_true, decide_eq_true_eq, and_assoc]

theorem circle_containsPoint_iff : (Region.circle i cx cy r).containsPoint x y = true ↔
    hypot (x - cx) (y - cy) ≤ r := by
  simp only [Region.containsPoint, decide_eq_true_eq]

theorem rect_containsRegion_rect_iff :
    (Region.rect i x1 y1 x2 y2).containsRegion (.rect j ox1 oy1 ox2 oy2) = true ↔
      (x1 ≤ ox1 ∧ ox2 ≤ x2) ∧ y1 ≤ oy1 ∧ oy2 ≤ y2 := by
  simp only [Region.containsRegion, Bool.and_eq_true, decide_eq_true_eq, and_assoc]

theorem rect_containsRegion_circle_iff :
    (Region.rect i x1 y1 x2 y2).containsRegion (.circle j cx cy r) = true ↔
      (x1 ≤ cx - r ∧ cx + r ≤ x2) ∧ y1 ≤ cy - r ∧ cy + r ≤ y2 := by
  simp only [Region.containsRegion, Bool.and_eq_true, decide_eq_true_eq, and_assoc]

theorem circle_containsRegion_rect_iff :
    (Region.circle i cx cy r).containsRegion (.rect j ox1 oy1 ox2 oy2) = true ↔
      (hypot (ox1 - cx) (oy1 - cy) ≤ r ∧ hypot (ox2 - cx) (oy1 - cy) ≤ r) ∧
        hypot (ox2 - cx) (oy2 - cy) ≤ r ∧ hypot (ox1 - cx) (oy2 - cy) ≤ r := by
  simp only [Region.containsRegion, Region.containsPoint, Bool.and_eq_true, decide_eq_true_eq,
    and_assoc]

theorem circle_containsRegion_circle_iff :
    (Region.circle i cx cy r).containsRegion (.circle j ocx ocy orr) = true ↔
      hypot (cx - ocx) (cy - ocy) + orr ≤ r := by
  simp only [Region.containsRegion, decide_eq_true_eq]

theorem mkRect_eq (id : String) (a b c d : α) :
    Region.mkRect id a b c d = .rect id (min a c) (min b d) (max a c) (max b d) := by
  -- the constructor orders each pair of coordinates
  have sw : ∀ a c : α, (if c < a then (c, a) else (a, c)) = (min a c, max a c) := fun a c => by
    rcases lt_or_ge c a with h | h
    · rw [if_pos h, min_eq_right h.le, max_eq_left h.le]
    · rw [if_neg (not_lt_of_ge h), min_eq_left h, max_eq_right h]
  unfold Region.mkRect
  rw [sw, sw]

end

variable {α : Type} [Field α] [LinearOrder α] [IsStrictOrderedRing α] [MathOps α] [MathSpec α]

/-- A point is excluded by a constructed rectangle exactly when it lies in the closed rectangle
spanned by the two given corners, in whichever order they were given. -/
theorem rect_contains_iff (id : String) (a b c d x y : α) :
    (Region.mkRect id a b c d).containsPoint x y = true ↔
      (min a c ≤ x ∧ x ≤ max a c) ∧ (min b d ≤ y ∧ y ≤ max b d) := by
  rw [mkRect_eq, rect_containsPoint_iff]

/-- A rectangle behaves identically however its corners are ordered. -/
theorem rect_corner_order (id : String) (a b c d x y : α) :
    (Region.mkRect id a b c d).containsPoint x y = (Region.mkRect id c b a d).containsPoint x y ∧
    (Region.mkRect id a b c d).containsPoint x y = (Region.mkRect id a d c b).containsPoint x y ∧
    (Region.mkRect id a b c d).containsPoint x y = (Region.mkRect id c d a b).containsPoint x y := by
  refine ⟨?_, ?_, ?_⟩ <;>
  · rw [Bool.eq_iff_iff, rect_contains_iff, rect_contains_iff]
    simp only [min_comm, max_comm]

/-- A point is excluded by a circular region exactly when it lies in the closed disc. -/
theorem circle_contains_iff (id : String) (cx cy r x y : α) :
    (Region.circle id cx cy r).containsPoint x y = true ↔
      0 ≤ r ∧ (x - cx) * (x - cx) + (y - cy) * (y - cy) ≤ r * r :=
  circle_containsPoint_iff.trans hypot_le_iff

/-- Whenever one region is reported to contain another, every point of the inner region is a
point of the outer one (all four type combinations). -/
theorem containsRegion_sound (A B : Region α) (h : A.containsRegion B = true) (x y : α)
    (hp : B.containsPoint x y = true) : A.containsPoint x y = true := by
  cases A with
  | rect i x1 y1 x2 y2 =>
    rw [rect_containsPoint_iff]
    cases B with
    | rect j ox1 oy1 ox2 oy2 =>
      obtain ⟨⟨a1, a2⟩, a3, a4⟩ := rect_containsRegion_rect_iff.mp h
      obtain ⟨⟨b1, b2⟩, b3, b4⟩ := rect_containsPoint_iff.mp hp
      exact ⟨⟨a1.trans b1, b2.trans a2⟩, a3.trans b3, b4.trans a4⟩
    | circle j cx cy r =>
      obtain ⟨⟨a1, a2⟩, a3, a4⟩ := rect_containsRegion_circle_iff.mp h
      obtain ⟨⟨b1, b2⟩, b3, b4⟩ := bbox_of_hypot_le (circle_containsPoint_iff.mp hp)
      exact ⟨⟨a1.trans b1, b2.trans a2⟩, a3.trans b3, b4.trans a4⟩
  | circle i cx cy r =>
    rw [circle_containsPoint_iff]
    cases B with
    | rect j ox1 oy1 ox2 oy2 =>
      -- the corner farthest from the centre in each coordinate is at least as far as `(x, y)`
      obtain ⟨⟨c1, c2⟩, c3, c4⟩ := circle_containsRegion_rect_iff.mp h
      obtain ⟨⟨b1, b2⟩, b3, b4⟩ := rect_containsPoint_iff.mp hp
      rcases mul_self_le_of_mem_Icc (sub_le_sub_right b1 cx) (sub_le_sub_right b2 cx) with hx | hx <;>
      rcases mul_self_le_of_mem_Icc (sub_le_sub_right b3 cy) (sub_le_sub_right b4 cy) with hy | hy
      · exact (hypot_le_of_mul_self_le hx hy).trans c1
      · exact (hypot_le_of_mul_self_le hx hy).trans c4
      · exact (hypot_le_of_mul_self_le hx hy).trans c2
      · exact (hypot_le_of_mul_self_le hx hy).trans c3
    | circle j ocx ocy orr =>
      have tri := hypot_add_le (x - ocx) (y - ocy) (ocx - cx) (ocy - cy)
      rw [sub_add_sub_cancel, sub_add_sub_cancel, hypot_sub_comm ocx] at tri
      exact tri.trans ((add_le_add (circle_containsPoint_iff.mp hp) le_rfl).trans
        ((add_comm _ _).trans_le (circle_containsRegion_circle_iff.mp h)))

/-! ## The containment test is exact

`containsRegion_sound` is the direction C12 needs.  The converse holds for a proper inner region
(`Region.Proper`): when the test answers "no" there is a point of the inner region outside the
outer one, so the test never refuses an update that covers the old region.  The witnesses are a
corner of the inner rectangle, an axis-extreme point of the inner circle, or the point of the
inner circle farthest from the outer centre. -/

/-- rectangles as the constructor builds them (`mkRect_proper`); for circles `0 ≤ r` is an
assumption on the request, which the API does not check -/
def Region.Proper : Region α → Prop
  | .rect _ x1 y1 x2 y2 => x1 ≤ x2 ∧ y1 ≤ y2
  | .circle _ _ _ r => 0 ≤ r

theorem mkRect_proper (id : String) (a b c d : α) : Region.Proper (Region.mkRect id a b c d) := by
  rw [mkRect_eq]; exact ⟨min_le_max, min_le_max⟩

/-- the four axis-extreme points of a circle with `0 ≤ r` belong to it (the witnesses of
`containsRegion_of_forall`) -/
theorem circle_border_inside (id : String) (cx cy r : α) (hr : 0 ≤ r) :
    (Region.circle id cx cy r).containsPoint (cx + r) cy = true ∧
    (Region.circle id cx cy r).containsPoint (cx - r) cy = true ∧
    (Region.circle id cx cy r).containsPoint cx (cy + r) = true ∧
    (Region.circle id cx cy r).containsPoint cx (cy - r) = true := by
  simp only [circle_containsPoint_iff, sub_self, add_sub_cancel_left, sub_sub_cancel_left,
    hypot_zero_right, hypot_zero_left, abs_neg, abs_of_nonneg hr, le_refl, and_self]

/-- the converse of `containsRegion_sound` for a proper inner region -/
theorem containsRegion_of_forall (A B : Region α) (hB : Region.Proper B)
    (h : ∀ x y, B.containsPoint x y = true → A.containsPoint x y = true) :
    A.containsRegion B = true := by
  cases B with
  | rect j ox1 oy1 ox2 oy2 =>
    obtain ⟨hx, hy⟩ := hB
    have sw := h ox1 oy1 (rect_containsPoint_iff.mpr ⟨⟨le_rfl, hx⟩, le_rfl, hy⟩)
    have ne := h ox2 oy2 (rect_containsPoint_iff.mpr ⟨⟨hx, le_rfl⟩, hy, le_rfl⟩)
    cases A with
    | rect i x1 y1 x2 y2 =>
      have a := rect_containsPoint_iff.mp sw
      have b := rect_containsPoint_iff.mp ne
      exact rect_containsRegion_rect_iff.mpr ⟨⟨a.1.1, b.1.2⟩, a.2.1, b.2.2⟩
    | circle i cx cy r =>
      have se := h ox2 oy1 (rect_containsPoint_iff.mpr ⟨⟨hx, le_rfl⟩, le_rfl, hy⟩)
      have nw := h ox1 oy2 (rect_containsPoint_iff.mpr ⟨⟨le_rfl, hx⟩, hy, le_rfl⟩)
      exact circle_containsRegion_rect_iff.mpr ⟨⟨circle_containsPoint_iff.mp sw, circle_containsPoint_iff.mp se⟩,
        circle_containsPoint_iff.mp ne, circle_containsPoint_iff.mp nw⟩
  | circle j ocx ocy orr =>
    have hr : 0 ≤ orr := hB
    cases A with
    | rect i x1 y1 x2 y2 =>
      obtain ⟨e, w, n, s⟩ := circle_border_inside j ocx ocy orr hr
      exact rect_containsRegion_circle_iff.mpr
        ⟨⟨(rect_containsPoint_iff.mp (h _ _ w)).1.1, (rect_containsPoint_iff.mp (h _ _ e)).1.2⟩,
          (rect_containsPoint_iff.mp (h _ _ s)).2.1, (rect_containsPoint_iff.mp (h _ _ n)).2.2⟩
    | circle i cx cy r =>
      obtain ⟨u, v, huv, hadd⟩ := exists_hypot_add_eq (ocx - cx) (ocy - cy) hr
      have := circle_containsPoint_iff.mp (h (ocx + u) (ocy + v) (circle_containsPoint_iff.mpr
        (by rw [add_sub_cancel_left, add_sub_cancel_left, huv])))
      rwa [add_sub_right_comm, add_sub_right_comm, hadd, hypot_sub_comm,
        ← circle_containsRegion_circle_iff (i := i) (j := j)] at this

/-- all four type pairs: a negative answer has a witness -/
theorem containsRegion_complete (A B : Region α) (hB : Region.Proper B)
    (h : A.containsRegion B = false) :
    ∃ x y, B.containsPoint x y = true ∧ A.containsPoint x y = false := by
  by_contra hn
  simp only [not_exists, not_and, Bool.not_eq_false] at hn
  exact Bool.false_ne_true (h.symm.trans (containsRegion_of_forall A B hB hn))

/-- hence the test decides geometric containment exactly -/
theorem containsRegion_iff (A B : Region α) (hB : Region.Proper B) :
    A.containsRegion B = true ↔ ∀ x y, B.containsPoint x y = true → A.containsPoint x y = true :=
  ⟨containsRegion_sound A B, containsRegion_of_forall A B hB⟩

/-- the hypothesis is met by what the API constructs -/
example (id : String) (a b c d : α) : Region.Proper (Region.mkRect id a b c d) := mkRect_proper id a b c d

/-! ## Degenerate and touching cases, spelled out

Corollaries of the two characterisations: the regions are *closed* (border points belong to
them), a rectangle given by one point twice is that point, a circle of radius 0 is its centre, a
circle with a negative radius excludes nothing. -/

theorem rect_corners_inside (id : String) (a b c d : α) :
    (Region.mkRect id a b c d).containsPoint a b = true ∧
    (Region.mkRect id a b c d).containsPoint c d = true ∧
    (Region.mkRect id a b c d).containsPoint a d = true ∧
    (Region.mkRect id a b c d).containsPoint c b = true := by
  simp only [rect_contains_iff, min_le_left, min_le_right, le_max_left, le_max_right, and_self]

theorem rect_point (id : String) (a b x y : α) :
    (Region.mkRect id a b a b).containsPoint x y = true ↔ x = a ∧ y = b := by
  rw [rect_contains_iff]
  simp only [min_self, max_self]
  constructor
  · rintro ⟨⟨h1, h2⟩, h3, h4⟩; exact ⟨le_antisymm h2 h1, le_antisymm h4 h3⟩
  · rintro ⟨rfl, rfl⟩; exact ⟨⟨le_refl _, le_refl _⟩, le_refl _, le_refl _⟩

theorem circle_zero (id : String) (cx cy x y : α) :
    (Region.circle id cx cy 0).containsPoint x y = true ↔ x = cx ∧ y = cy := by
  -- with `0 ≤ hypot`, `hypot ≤ 0` is `hypot = 0`
  rw [circle_containsPoint_iff, LE.le.ge_iff_eq' (hypot_nonneg _ _), hypot_eq_zero_iff, sub_eq_zero,
    sub_eq_zero]

theorem circle_negative_empty (id : String) (cx cy r x y : α) (hr : r < 0) :
    (Region.circle id cx cy r).containsPoint x y = false := by
  rw [Bool.eq_false_iff]; intro h
  exact absurd ((circle_contains_iff id cx cy r x y).mp h).1 (not_le.mpr hr)

/-- two rectangles sharing an edge: the points of the shared edge belong to both -/
theorem rect_touching (i j : String) (a b c d e : α) (y : α) (hy : min b d ≤ y ∧ y ≤ max b d) :
    (Region.mkRect i a b c d).containsPoint c y = true ∧
    (Region.mkRect j c b e d).containsPoint c y = true := by
  simp only [rect_contains_iff]
  exact ⟨⟨⟨min_le_right _ _, le_max_right _ _⟩, hy⟩, ⟨⟨min_le_left _ _, le_max_left _ _⟩, hy⟩⟩

/-- a proper region is reported to contain itself (so re-sending a region's own
geometry as an update is never refused) -/
theorem containsRegion_refl (A : Region α) (hA : Region.Proper A) : A.containsRegion A = true :=
  (containsRegion_iff A A hA).mpr (fun _ _ h => h)

/-- reported containment is transitive -/
theorem containsRegion_trans (A B C : Region α) (hC : Region.Proper C)
    (h1 : A.containsRegion B = true) (h2 : B.containsRegion C = true) : A.containsRegion C = true :=
  (containsRegion_iff A C hC).mpr
    (fun x y h => containsRegion_sound A B h1 x y (containsRegion_sound B C h2 x y h))

/-- mutual containment means the same set of points -/
theorem containsRegion_antisymm (A B : Region α)
    (h1 : A.containsRegion B = true) (h2 : B.containsRegion A = true) (x y : α) :
    A.containsPoint x y = B.containsPoint x y := by
  rw [Bool.eq_iff_iff]
  exact ⟨containsRegion_sound B A h2 x y, containsRegion_sound A B h1 x y⟩

end ERP.C17
