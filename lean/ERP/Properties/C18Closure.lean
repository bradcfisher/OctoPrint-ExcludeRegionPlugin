import ERP.Lemmas.ParseShape
import ERP.Lemmas.Reparse
import ERP.Properties.C18  -- for the C18 check, which audits names of C18.lean through this module
/-! # C18 — normalisation is stable (re-parsing a normalised command string)

`Parser.commandString` renders a parsed command as
`<indent>[N<line> ]<type><code>[.<sub>][ <parameters>]`; the line regex regenerated from the Python
source is evaluated *exactly* on that string.  The two `_partial` theorems take the *plain* shape of the command
as a hypothesis (`NormCmd.WF`).

`parse_plain`: whatever text is parsed (no backslash in it), a parsed command has that shape.  That
the parameters are *trimmed* needs more than soundness of the matcher: the first character is no
blank because the greedy blank run before the parameter group would otherwise have been longer
(`Rx.starG_spec`: **last** success), the last one because the lazy parameter group would otherwise
have stopped earlier (`Rx.lazyG_spec`: **first** success); both arguments move a success of the tail
between capture lists with `Rx.m_capsIrrel` (no back-references).  `C18_idempotent_noescape` and
`C18_checksum_validates_noescape` are the resulting statements for every source without a backslash.
Escaped parameters (`\\`, `\;`) are outside the theorems. -/
namespace ERP.C18
open ERP.Rx ERP.NormCmd

/-- **C18 (idempotence, plain parameters)**: re-parsing the normalised command string gives the same
fields and the same string, and consumes it completely. -/
theorem C18_reparse_partial (p : Parser) (ty : Char) (code : Nat)
    (hty : p.type = some ty) (hc : p.code = some code) (hwf : (normOf p ty code).WF) :
    ∃ q, ({} : Parser).parse (some p.commandString) = .ok q ∧
      q.type = p.type ∧ q.code = p.code ∧ q.subCode = p.subCode ∧ q.parameters = p.parameters ∧
      q.lineNumber = p.lineNumber ∧ q.commandString = p.commandString ∧
      q.offset = 0 ∧ q.length = p.commandString.length ∧
      q.checksum = none ∧ q.comment = none ∧ q.eol = [] := by
  rw [commandString_eq_render p ty code hty hc]
  exact ⟨_, reparse_eq _ hwf, hty.symm, hc.symm, rfl, rfl, rfl, commandString_eq_render _ ty code rfl rfl, rfl,
    (render_length _).symm, rfl, rfl, rfl⟩

/-- **C18 (checksum self-validation, plain parameters)**: a command with a line number, rendered
by `stringify(includeComment=False, includeEol=False)` (the checksum goes with the line number; the
default `stringify()` would also append comment and line ending), parses back into a line that
`validate()` accepts, with the same fields. -/
theorem C18_checksum_validates_partial (p : Parser) (n : Nat) (ty : Char) (code : Nat)
    (hln : p.lineNumber = some n) (hty : p.type = some ty) (hc : p.code = some code)
    (hwf : (normOf p ty code).WF) :
    ∃ q, ({} : Parser).parse (some (p.stringify (includeComment := false) (includeEol := false))) = .ok q ∧
      q.validate = .ok () ∧ q.checksum = some (computeChecksum q.text) ∧
      q.lineNumber = some n ∧ q.type = p.type ∧ q.code = p.code ∧ q.subCode = p.subCode ∧
      q.parameters = p.parameters ∧ q.commandString = p.commandString := by
  let base := normOf p ty code
  let T : Text := base.nPart ++ base.gPart ++ base.pPart ++ [' ']
  let x : NormCmd := { base with ck := some (computeChecksum T) }
  have hx : x.WF := ⟨hwf.lw, hwf.ty, hwf.tsub, hwf.params⟩  -- `WF` does not look at `ck`
  have hS : p.stringify (includeComment := false) (includeEol := false) = x.render := by
    obtain ⟨R, hR1, hR2⟩ := stringify_ck p n ty code hln hty hc
    have hbase : base.render = p.leadingWhitespace ++ (base.nPart ++ base.gPart ++ base.pPart) := by
      rw [render, show base.ckPart = [] from rfl, List.append_nil]
      simp only [List.append_assoc]
      rfl
    have hR : R = base.nPart ++ base.gPart ++ base.pPart :=
      List.append_cancel_left (hR1.symm.trans ((commandString_eq_render p ty code hty hc).trans hbase))
    have hT : R ++ [' '] = T := by rw [hR]
    rw [hR2, hT, hR, render, show x.ckPart = ' ' :: '*' :: natToText (computeChecksum T) from rfl]
    simp only [List.append_assoc]
    rfl
  rw [hS]
  refine ⟨_, reparse_eq x hx, ?_, rfl, hln, hty.symm, hc.symm, rfl, rfl, ?_⟩
  · have hl : x.ln = some n := hln
    -- the theorem: the checksum rendered is the checksum of the text the parser reads, by `rfl`
    have hk : x.ck = some (computeChecksum x.textOf) := rfl
    simp only [Parser.validate, hk, hl, Option.isSome_some, bne_self_eq_false, Bool.false_eq_true, if_false]
  · exact (commandString_eq_render _ ty code rfl rfl).trans (commandString_eq_render p ty code hty hc).symm

/-- every well-formed `NormCmd` is a command string: its rendering parses back to it -/
theorem C18_render_roundtrip (x : NormCmd) (h : x.WF) (hck : x.ck = none) :
    ∃ q, ({} : Parser).parse (some x.render) = .ok q ∧ q.commandString = x.render ∧
      q.type = some x.ty ∧ q.code = some x.code ∧ q.subCode = x.sub ∧ q.parameters = x.params := by
  refine ⟨_, reparse_eq x h, ?_, rfl, rfl, rfl, rfl⟩
  rw [commandString_eq_render _ x.ty x.code rfl rfl]
  obtain ⟨lw, ln, ty, code, sub, params, ck⟩ := x
  cases hck
  rfl

/-- non-vacuity: a command with line number, sub-code and parameters -/
example : (⟨[' ', ' '], some 12, 'G', 1, some 5, some "X1 Y-2.5 E.3".toList, none⟩ : NormCmd).WF where
  lw := by decide
  ty := by decide
  tsub := by decide
  params := by
    intro ps hp
    cases hp
    refine ⟨by decide, by decide, by decide, by decide⟩

example : (⟨[' ', ' '], some 12, 'G', 1, some 5, some "X1 Y-2.5 E.3".toList, none⟩ : NormCmd).render
    = "  N12 G1.5 X1 Y-2.5 E.3".toList := by decide +kernel

/-- **what the parser produces is plain**: for a source without backslashes every parsed command meets
`NormCmd.WF` (blank-only indentation, a type among `G M T`, trimmed plain parameters), the hypothesis
of the two `_partial` theorems. -/
theorem parse_plain (p q : Parser) (src : Text) (off : Nat) (hoff : off ≤ src.length) (hnb : '\\' ∉ src)
    (h : p.parse (some src) (some off) = .ok q) (ty : Char) (code : Nat)
    (hty : q.type = some ty) : (normOf q ty code).WF := by
  have hsz : (⟨src.toArray⟩ : Ctx).s.size = src.length := List.size_toArray
  obtain ⟨e, caps, hm⟩ := matchAt_of_parse h
  rw [parse_eq p hm] at h
  cases h
  replace hty : (({} : Parser).gcodeMatch src caps 4).type = some ty := hty
  obtain ⟨p1, hle, hblank, hcase⟩ := line_inv ⟨src.toArray⟩ off (hsz ▸ hoff) (e, caps) hm
  rcases hcase with ⟨d2, cC, hd2, ⟨hc1, hc9, hcode⟩, hrest⟩ | ⟨_, h4, h7⟩
  · obtain ⟨hpp, hfr⟩ := restA_plain ⟨src.toArray⟩ (passes_lit_of_not_mem src hnb) p1 d2 cC (e, caps) hd2 hrest
    -- the groups before the parameters are those of the code
    have keep : ∀ j, j ≠ 2 → j < 9 → capOf caps j = capOf cC j := fun j h2 h9 =>
      hfr j h2 (by omega) (by omega) (by omega) (by omega) (by omega)
    have htysub : (ty = 'G' ∨ ty = 'M' ∨ ty = 'T') ∧
        (ty = 'T' → (({} : Parser).gcodeMatch src caps 4).subCode = none) := by
      rcases hcode with ⟨a, hgm, h4⟩ | ⟨a, htt, h4, h7, h6⟩
      · have hal : a < src.length := hsz ▸ passes_lt hgm
        rw [Parser.gcodeMatch, capText_single ((keep 4 (by omega) (by omega)).trans h4) hal] at hty
        replace hty : upperC src[a] = ty := Option.some.inj hty
        rw [passes_char (List.getElem?_eq_getElem hal) false GMc] at hgm
        rcases upper_gm _ hgm with hu | hu <;> rw [hu] at hty <;> subst hty
        · exact ⟨Or.inl rfl, fun e => absurd e (by decide)⟩
        · exact ⟨Or.inr (Or.inl rfl), fun e => absurd e (by decide)⟩
      · have hal : a < src.length := hsz ▸ passes_lt htt
        have ct4 := capText_none (s := src) ((keep 4 (by omega) (by omega)).trans h4)
        have ct6 := capText_none (s := src) ((keep 6 (by omega) (by omega)).trans h6)
        have ct7 := capText_single ((keep 7 (by omega) (by omega)).trans h7) hal
        rw [Parser.gcodeMatch, ct4, ct7] at hty ⊢
        replace hty : upperC src[a] = ty := Option.some.inj hty
        rw [passes_char (List.getElem?_eq_getElem hal) false TTc] at htt
        rw [upper_t _ htt] at hty
        exact ⟨Or.inr (Or.inr hty.symm), fun _ => by rw [ct6]; rfl⟩
    refine ⟨fun c hc => ?_, htysub.1, htysub.2, fun ps hps => ?_⟩
    · replace hc : c ∈ (capText src caps 1).getD [] := hc
      rw [capText_of ((keep 1 (by omega) (by omega)).trans hc1) rfl] at hc
      exact (lit_test _ c).mp (slice_all src false SP off p1 hblank c hc)
    · replace hps : capText src caps 9 = some ps := hps
      rcases hpp with h9 | ⟨qq, e9, hq1, hq2, hq3, hq4, hq5, hq6, hq7⟩
      · rw [capText_none (h9.trans hc9)] at hps; cases hps
      · rw [hsz] at hq3
        rw [capText_of hq4 rfl] at hps
        cases hps
        exact plainParams_slice hnb hq2 hq3 hq5 hq6 hq7
  · -- the catch-all alternative sets no type
    rw [Parser.gcodeMatch, capText_none h4, capText_none h7] at hty
    cases hty

/-- **C18 (idempotence), sources without backslashes.**  Whatever text is parsed, at whatever
offset: `C18_reparse_partial` holds of a parsed command (type and code set). -/
theorem C18_idempotent_noescape (p q : Parser) (src : Text) (off : Nat) (hoff : off ≤ src.length)
    (hnb : '\\' ∉ src) (h : p.parse (some src) (some off) = .ok q) (ty : Char) (code : Nat)
    (hty : q.type = some ty) (hc : q.code = some code) :
    ∃ q', ({} : Parser).parse (some q.commandString) = .ok q' ∧
      q'.type = q.type ∧ q'.code = q.code ∧ q'.subCode = q.subCode ∧ q'.parameters = q.parameters ∧
      q'.lineNumber = q.lineNumber ∧ q'.commandString = q.commandString ∧
      q'.offset = 0 ∧ q'.length = q.commandString.length ∧
      q'.checksum = none ∧ q'.comment = none ∧ q'.eol = [] :=
  C18_reparse_partial q ty code hty hc (parse_plain p q src off hoff hnb h ty code hty)

/-- **C18 (checksum self-validation), sources without backslashes**: likewise
`C18_checksum_validates_partial` (for `stringify(includeComment=False, includeEol=False)`, not the
default `stringify()`). -/
theorem C18_checksum_validates_noescape (p q : Parser) (src : Text) (off : Nat) (hoff : off ≤ src.length)
    (hnb : '\\' ∉ src) (h : p.parse (some src) (some off) = .ok q) (n : Nat) (ty : Char) (code : Nat)
    (hln : q.lineNumber = some n) (hty : q.type = some ty) (hc : q.code = some code) :
    ∃ q', ({} : Parser).parse (some (q.stringify (includeComment := false) (includeEol := false))) = .ok q' ∧
      q'.validate = .ok () ∧ q'.checksum = some (computeChecksum q'.text) ∧
      q'.lineNumber = some n ∧ q'.type = q.type ∧ q'.code = q.code ∧ q'.subCode = q.subCode ∧
      q'.parameters = q.parameters ∧ q'.commandString = q.commandString :=
  C18_checksum_validates_partial q n ty code hln hty hc (parse_plain p q src off hoff hnb h ty code hty)

end ERP.C18
