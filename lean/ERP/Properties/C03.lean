import ERP.Lemmas.StepInv
import ERP.Properties.C09
import ERP.Lemmas.RealOps
import ERP.Spec.Sys
import ERP.Lemmas.GenTies -- tie to /repo
/-! # C03 — Leaving a region re-synchronises the tool position

`phys` executes what the filter forwards, `virt` executes the unfiltered file (`ERP.Spec.Sys`).
The theorems hold for every program of the dialect `Dialect` (absolute or relative positioning,
mm or inch, any regions, entering moves that also change Z or E); the excluded commands are the
known findings K-D5 (arcs in relative mode), K-D10 (R-form arcs), K-D15 (G92 X/Y/Z, M206) and
K-D18 (G28 inside an episode). -/
namespace ERP.C03

section
variable {α : Type} [Field α]

/-- what the C03 theorems carry along a `Sys` run -/
structure Good (y : Sys α) : Prop where
  wf : WF y.s
  inv : InvXYZ y.s y.phys
  track : XYZeq y.s.position y.virt.pos

theorem Good.synced {y : Sys α} (hg : Good y) (he : y.s.excluding = false) :
    XYZeq y.phys.pos y.virt.pos :=
  (hg.inv.free he).trans hg.track

end

variable {α : Type} [Field α] [LinearOrder α] [IsStrictOrderedRing α] [MathOps α] [MathSpec α]

/-- every command of the program is in the dialect at the state in which it is processed -/
def DialectRun (cfg : Config) (inch : α) : Sys α → List (Ev α) → Prop
  | _, [] => True
  | y, e :: es => DialectEv y.s e ∧ DialectRun cfg inch (y.step cfg inch e) es

theorem good_step (cfg : Config) (inch : α) (hinch : inch ≠ 0) (y : Sys α) (e : Ev α)
    (hg : Good y) (hd : DialectEv y.s e) : Good (y.step cfg inch e) := by
  obtain ⟨hw, hi⟩ := step_inv cfg inch hinch y.s y.phys e hg.wf hg.inv hd
  refine ⟨hw, hi, ?_⟩
  cases e with
  | gcode g c => exact track_gcode cfg inch y.s y.virt g c hg.wf hd hg.track
  | atCmd st cmd ps =>
    simp only [Sys.step, stepT]
    rw [handleAtCommand_pos]; exact hg.track
  | addRegion r =>
    simp only [Sys.step, stepT]
    cases hr : y.s.addRegion r with
    | error _ => exact hg.track
    | ok s' => rw [addRegion_eq hr]; exact hg.track

theorem good_run (cfg : Config) (inch : α) (hinch : inch ≠ 0) (es : List (Ev α)) :
    ∀ y : Sys α, Good y → DialectRun cfg inch y es → Good (y.run cfg inch es) := by
  induction es with
  | nil => intro y h _; exact h
  | cons e rest ih =>
    intro y h hd
    exact ih _ (good_step cfg inch hinch y e h hd.1) hd.2

/-- the homed start configuration is consistent (non-vacuity; any region list) -/
theorem good_start (regions : List (Region α)) : Good (Sys.start regions) :=
  ⟨C09.homed_WF regions _ rfl, InvXYZ.mk_free rfl (XYZeq.refl _) (List.forall_mem_nil _), XYZeq.refl _⟩

/-- **C03 (position, mode, units).** In every reachable configuration in which no episode is open,
the printer's X, Y and Z axes — physical position, workspace offsets, positioning mode and units —
are exactly those the unfiltered file produces. -/
theorem C03_resync (cfg : Config) (inch : α) (hinch : inch ≠ 0) (regions : List (Region α))
    (es : List (Ev α)) (hd : DialectRun cfg inch (Sys.start regions) es) :
    let y := (Sys.start regions).run cfg inch es
    y.s.excluding = false → XYZeq y.phys.pos y.virt.pos := by
  intro y he
  exact (good_run cfg inch hinch es _ (good_start regions) hd).synced he

set_option linter.unusedSectionVars false in
/-- A move none of whose tested points (the destination of a linear move, every sample of an arc)
is excluded leaves no episode open … -/
theorem move_outside_closes (cfg : Config) (s : FState α) (cmd : Cmd α) (ep fr fz : Option α)
    (xy : List (Option α × Option α)) (hm : T.isMoveOf fz xy = true)
    (hout : (T.isAnyLoop (T.applyEZF s ep fr fz) xy false).2 = false) :
    (T.processLinearMoves cfg s cmd ep fr fz xy).1.excluding = false := by
  rw [(plm_ctrl cfg s cmd ep fr fz xy).excluding]
  simp only [hm, if_true, hitOf, hout, Bool.and_false]

/-- … so for a linear move (G0/G1 with an X, Y or Z word) whose destination is outside every
enabled region, once the command has been processed the printer is where the file puts it. -/
theorem C03_linear_move (cfg : Config) (inch : α) (hinch : inch ≠ 0) (y : Sys α) (hg : Good y)
    (g : String) (c : Cmd α) (hd : Dialect y.s g c)
    (hcode : Code.ofString g = .G0 ∨ Code.ofString g = .G1)
    (hmove : T.isMoveOf (lastValue c.words 'Z') [(lastValue c.words 'X', lastValue c.words 'Y')] = true)
    (hout : (T.isAnyLoop (T.applyEZF y.s (lastValue c.words 'E') (lastValue c.words 'F') (lastValue c.words 'Z'))
              [(lastValue c.words 'X', lastValue c.words 'Y')] false).2 = false) :
    XYZeq (y.step cfg inch (.gcode g c)).phys.pos (y.step cfg inch (.gcode g c)).virt.pos := by
  have hg' := good_step cfg inch hinch y (.gcode g c) hg hd
  have hex : (y.step cfg inch (.gcode g c)).s.excluding = false := by
    show (T.handleGcode cfg inch y.s g c).1.excluding = false
    rw [handleGcode_linear cfg inch y.s c hcode]
    exact move_outside_closes cfg y.s c _ _ _ _ hmove hout
  exact hg'.synced hex

/-- non-vacuity: over ℝ the start configuration is `Good` -/
example : Good (Sys.start ([Region.rect "a" 10 10 20 20] : List (Region ℝ))) := good_start _

end ERP.C03
