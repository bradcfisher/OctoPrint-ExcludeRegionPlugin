import ERP.Lemmas.PluginSpec
import ERP.Lemmas.GenTies
/-! # C10 — Every print starts from a clean tracking state

Two invariants of the plugin shell, both carried through every operation by `step_eq`: `Same`
(equal up to the notification log, which no operation reads, so outputs do not depend on it) and
`Applied` (the settings acted on are the stored ones).  With them, after print-started the plugin
answers like a freshly initialised one with the same settings and regions (`C10_fresh`). -/
namespace ERP.C10

section
variable {α : Type}

/-- Two plugin objects that differ at most in the log of notifications already sent. -/
structure Same (p q : Plugin α) : Prop where
  settings : p.settings = q.settings
  clear : p.clearRegionsAfterPrintFinishes = q.clearRegionsAfterPrintFinishes
  shrink : p.mayShrinkRegionsWhilePrinting = q.mayShrinkRegionsWhilePrinting
  cfg : p.cfg = q.cfg
  active : p.activePrintJob = q.activePrintJob
  st : p.st = q.st

/-- The settings the plugin acts on are the stored ones (true after `initialize` and kept by every
operation, because a settings save delivers `SettingsUpdated`). -/
def Applied (p : Plugin α) : Prop :=
  p.clearRegionsAfterPrintFinishes = p.settings.clearRegionsAfterPrintFinishes ∧
  p.mayShrinkRegionsWhilePrinting = p.settings.mayShrinkRegionsWhilePrinting ∧
  p.cfg = p.settings.cfg

theorem applied_conf {p : Plugin α} (h : Applied p) (op : POp α) : Applied (p.conf op) := by
  cases op with
  | save s => exact ⟨rfl, rfl, rfl⟩
  | event e =>
    cases e with
    | settingsUpdated => exact ⟨rfl, rfl, rfl⟩
    | _ => exact h
  | _ => exact h

end

variable {α : Type} [Add α] [Sub α] [Mul α] [Div α] [Neg α] [LT α] [LE α] [BEq α]
  [OfNat α 0] [OfNat α 1] [OfNat α 2] [DecidableLT α] [DecidableLE α] [MathOps α] [OfDecimal α]

set_option linter.unusedSectionVars false in
theorem Same.refl (p : Plugin α) : Same p p := ⟨rfl, rfl, rfl, rfl, rfl, rfl⟩

/-- outputs never depend on the notification log, and `Same` is preserved by every operation -/
theorem step_same (inch : α) (p q : Plugin α) (h : Same p q) (op : POp α) :
    Same (p.step inch op).1 (q.step inch op).1 ∧ (p.step inch op).2 = (q.step inch op).2 := by
  obtain ⟨s, c, m, cfg, a, st, pn⟩ := p
  obtain ⟨_, _, _, _, _, _, qn⟩ := q
  obtain ⟨rfl, rfl, rfl, rfl, rfl, rfl⟩ := h
  -- both steps are the step from the empty log, up to the log
  have e := fun n => step_eq inch ⟨s, c, m, cfg, a, st, []⟩ n op
  rw [e pn, e qn]
  exact ⟨⟨rfl, rfl, rfl, rfl, rfl, rfl⟩, rfl⟩

theorem run_same (inch : α) (ops : List (POp α)) :
    ∀ p q : Plugin α, Same p q → (Plugin.run inch p ops).2 = (Plugin.run inch q ops).2 := by
  induction ops with
  | nil => intro p q _; rfl
  | cons op rest ih =>
    intro p q h
    obtain ⟨h1, h2⟩ := step_same inch p q h op
    simp only [Plugin.run, h2, ih _ _ h1]

set_option linter.unusedSectionVars false in
/-- a step that replaces only the filter state keeps `Applied` -/
theorem frame_of_same_st {p p' : Plugin α} (h : p' = { p with st := p'.st }) (ha : Applied p) :
    Applied p' := by rw [h]; exact ha

theorem applied_step (inch : α) (p : Plugin α) (op : POp α) (h : Applied p) :
    Applied (p.step inch op).1 := by
  rw [step_eq inch p p.notifications op]
  exact applied_conf h op

theorem applied_run (inch : α) (ops : List (POp α)) :
    ∀ p : Plugin α, Applied p → Applied (Plugin.run inch p ops).1 := by
  induction ops with
  | nil => intro p h; exact h
  | cons op rest ih => intro p h; exact ih _ (applied_step inch p op h)

/-- The state print-started produces: every per-print field has its initial value. -/
theorem printStarted_state (inch : α) (p : Plugin α) :
    (p.step inch (.event .printStarted)).1.st = FState.reset p.st.excludedRegions :=
  congrArg (·.st) (step_printStarted inch p)

/-- A freshly initialised plugin given the same settings and regions. -/
def freshWith (st : Settings) (regions : List (Region α)) : Plugin α :=
  { (Plugin.initialize st : Plugin α) with st := FState.reset regions }

/-- **C10.** Whatever commands, @-commands, events, API calls and settings saves happened before
(`history`, from initialisation with any settings), after a print-started event the outputs of the
plugin on any further operations `prog` equal those of a freshly initialised plugin given the same
regions and settings. -/
theorem C10_fresh (inch : α) (st0 : Settings) (history prog : List (POp α)) :
    let used := (Plugin.run inch (Plugin.initialize st0 : Plugin α) history).1
    (Plugin.run inch used (.event .printStarted :: prog)).2 =
      (Plugin.run inch (freshWith used.settings used.st.excludedRegions) (.event .printStarted :: prog)).2 := by
  intro used
  have ha : Applied used := applied_run inch history _ ⟨rfl, rfl, rfl⟩
  obtain ⟨a1, a2, a3⟩ := ha
  simp only [Plugin.run]
  congr 1
  apply run_same
  rw [step_printStarted, step_printStarted]
  exact ⟨rfl, a1, a2, a3, rfl, rfl⟩

end ERP.C10
