import ERP.Lemmas.StepInv
import Mathlib.Tactic.NormNum
import Mathlib.Algebra.Order.Field.Rat
import ERP.Lemmas.GenTies -- tie to /repo
/-! # C08 — Exclusion decisions are invariant under re-encoding of the same tool path

The decision taken for a move is a function of its *native* destination, the regions and the
switch (`decision_is_native`); each re-encoding reaches the same native destination
(`enc_inch`, `enc_rel`) or shifts membership consistently (`enc_translate`). Re-basing with
G92 X/Y/Z is the known finding K-D15 (`g92_rebase_counterexample`). -/
namespace ERP.C08
open T
section
variable {α : Type} [Field α] [LinearOrder α] [IsStrictOrderedRing α] [MathOps α] [MathSpec α]

set_option linter.unusedSectionVars false in
/-- **Decisions are native.** Whether a linear move is treated as excluded is the region test at
the native destination the tracked axes reach — nothing else about the encoding enters. -/
theorem decision_is_native (s : FState α) (ep fr fz : Option α) (px py : Option α) :
    hitOf s ep fr fz [(px, py)] =
      (T.isMoveOf fz [(px, py)] &&
        (s.exclusionEnabled && T.anyContains s.excludedRegions
          (cur (setLog s.position.x px)) (cur (setLog s.position.y py)))) :=
  hitOf_singleton s ep fr fz px py

/-- … so two `processLinearMoves` calls for a move that agree on regions, switch and native
destination leave the same `excluding`. -/
theorem linear_decision_congr (cfg : Config) (s s' : FState α) (cmd cmd' : Cmd α)
    (ep fr fz px py ep' fr' fz' px' py' : Option α) (h : WF s) (h' : WF s')
    (hreg : s'.excludedRegions = s.excludedRegions) (hen : s'.exclusionEnabled = s.exclusionEnabled)
    (hm : T.isMoveOf fz' [(px', py')] = T.isMoveOf fz [(px, py)])
    (hmove : T.isMoveOf fz [(px, py)] = true)
    (hdx : cur (setLog s'.position.x px') = cur (setLog s.position.x px))
    (hdy : cur (setLog s'.position.y py') = cur (setLog s.position.y py)) :
    (T.processLinearMoves cfg s' cmd' ep' fr' fz' [(px', py')]).1.excluding =
    (T.processLinearMoves cfg s cmd ep fr fz [(px, py)]).1.excluding := by
  rw [(plm_ctrl cfg s' cmd' _ _ _ _).excluding, (plm_ctrl cfg s cmd _ _ _ _).excluding,
    decision_is_native, decision_is_native, hm, hmove, hreg, hen, hdx, hdy]
  simp only [if_true]

set_option linter.unusedSectionVars false in
/-- inches: scaling the logical value by the unit reaches the same native target -/
theorem enc_inch (a : Axis α) (u : α) (hu : u ≠ 0) (habs : a.absoluteMode = true) (w : α) :
    l2n { a with unitMultiplier := u } (w / u) = l2n { a with unitMultiplier := 1 } w := by
  simp only [l2n, habs, if_true, div_mul_cancel₀ w hu, mul_one]

set_option linter.unusedSectionVars false in
/-- absolute or relative: either way of writing the same native target `t` reaches `t` -/
theorem enc_rel (a : Axis α) (hu : a.unitMultiplier ≠ 0) (t : α) :
    l2n { a with absoluteMode := true } ((t - (a.offset + a.homeOffset)) / a.unitMultiplier) = t ∧
    l2n { a with absoluteMode := false } ((t - cur a) / a.unitMultiplier) = t := by
  constructor
  · simp only [l2n, if_true, div_mul_cancel₀ _ hu, sub_add_cancel]
  · simp only [l2n, Bool.false_eq_true, if_false, cur, div_mul_cancel₀ _ hu, sub_add_cancel]

def translate (v : α × α) : Region α → Region α
  | .rect i x1 y1 x2 y2 => .rect i (x1 + v.1) (y1 + v.2) (x2 + v.1) (y2 + v.2)
  | .circle i cx cy r => .circle i (cx + v.1) (cy + v.2) r

set_option linter.unusedSectionVars false in
/-- translating a region and a point by the same vector does not change membership -/
theorem enc_translate (r : Region α) (v : α × α) (x y : α) :
    (translate v r).containsPoint (x + v.1) (y + v.2) = r.containsPoint x y := by
  cases r with
  | rect i x1 y1 x2 y2 =>
    simp only [translate, Region.containsPoint, add_le_add_iff_right]
  | circle i cx cy rr =>
    simp only [translate, Region.containsPoint, add_sub_add_right_eq_sub]

theorem enc_translate_any (rs : List (Region α)) (v : α × α) (x y : α) :
    T.anyContains (rs.map (translate v)) (x + v.1) (y + v.2) = T.anyContains rs x y := by
  unfold T.anyContains
  induction rs with
  | nil => rfl
  | cons r rest ih => simp only [List.map_cons, List.any_cons, enc_translate, ih]

end

/-- **Known finding K-D15 on the model.** `G92 X0` at x = 25 should make the current position read
as 0; with the plugin's offset arithmetic it reads as 50 (and a following `X-10` is tracked at −35
instead of 15). -/
theorem g92_rebase_counterexample :
    let a : Axis ℚ := { current := some 25, homeOffset := 0, offset := 0, absoluteMode := true, unitMultiplier := 1 }
    T.n2l (T.setOffsetPos a 0) = 50 ∧ T.l2n (T.setOffsetPos a 0) (-10) = -35 := by
  constructor <;> norm_num [T.n2l, T.setOffsetPos, T.l2n, T.cur]

/-- what a correct re-basing does (the reference printer's `rebase`): the position reads as `v` -/
theorem spec_rebase_reads_back (a : Axis ℚ) (v : ℚ) (hu : a.unitMultiplier ≠ 0) (hc : a.current.isSome) :
    T.n2l (Spec.rebase a (some v)) = v := by
  obtain ⟨c, hc⟩ := Option.isSome_iff_exists.mp hc
  simp only [Spec.rebase, T.n2l, T.cur, Spec.coord, hc, Option.getD]
  rw [sub_add_cancel, sub_sub_cancel, mul_div_cancel_right₀ v hu]

end ERP.C08
