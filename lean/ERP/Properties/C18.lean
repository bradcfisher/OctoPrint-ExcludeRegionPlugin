import ERP.Lemmas.Text
import ERP.Lemmas.ParseOk
import ERP.Lemmas.LineSpans
/-! # C18 — Parser is lossless and its normalisation is stable

For every source string and offset, about the parser model whose regular expressions are regenerated
from the Python source: a parsed line's attributes reproduce its slice of the source, `parse` never
fails and makes progress, hence `parseLines` consumes the whole text (`parseLines_lossless`).

The idempotence of normalisation and the self-validation of rendered checksums are proved in
`ERP/Properties/C18Closure.lean`, by exact evaluation of the line regex, for every line parsed from a
source without backslash; escaped parameters are decided by the correspondence suites `parser` and
`text` plus the oracle search. -/
namespace ERP.C18
open ERP.Rx

/-- **Lossless (one line)**: `fullText` is the line's slice of the source. -/
theorem parse_lossless (p q : Parser) (src : Text) (off : Nat) (hoff : off ≤ src.length)
    (h : p.parse (some src) (some off) = .ok q) :
    q.fullText = slice src off (off + q.length) ∧ off + q.length ≤ src.length := by
  obtain ⟨e, caps, hm⟩ := matchAt_of_parse h
  rw [parse_eq p hm] at h
  cases h
  obtain ⟨⟨p1, p2, p3, p4, h01, h12, h23, h34, h4e, he, c1, c2, c11, c12, c13, c10⟩⟩ :=
    gcodeLine_spans src.toArray off e caps (List.size_toArray ▸ hoff) hm
  rw [List.size_toArray] at he
  show Parser.fullText _ = slice src off (off + (e - off)) ∧ off + (e - off) ≤ src.length
  rw [Nat.add_sub_cancel' (by omega : off ≤ e)]
  refine ⟨?_, he⟩
  have g1 : capText src caps 1 = some (slice src off p1) := capText_of c1 rfl
  have g2 : capText src caps 2 = some (slice src p1 p2) := capText_of c2 rfl
  have g11 : capText src caps 11 = some (slice src p2 p3) := capText_of c11 rfl
  have g13 : capText src caps 13 = some (slice src p4 e) := capText_of c13 rfl
  have hcomment : (capText src caps 12).getD [] = slice src p3 p4 := by
    rcases c12 with ⟨h12', rfl⟩ | h12'
    · rw [capText_none h12']; exact (slice_self src _).symm
    · rw [capText_of h12' rfl]; rfl
  rw [Parser.fullText, List.append_assoc (Parser.leadingWhitespace _)]
  simp only [g1, g2, g11, g13, hcomment, Option.getD_some]
  -- text and raw checksum together are group 2
  have htext : (slice src p1 p2).take ((slice src p1 p2).length - ((capText src caps 10).map (·.length + 1)).getD 0) ++
      ((capText src caps 10).map ('*' :: ·)).getD [] = slice src p1 p2 := by
    rcases c10 with h10 | ⟨a, h10, ha1, ha2, hlt, hstar⟩
    · rw [capText_none h10]
      exact (List.append_nil _).trans List.take_length
    · -- group 2 is the text, `*`, the digits: cutting `len(rawChecksum)` off its end leaves the text
      have hlt' : a - 1 < src.length := by rwa [List.size_toArray] at hlt
      rw [capText_of h10 rfl, slice_split src ha1 ha2 hlt', ← List.getElem_toArray hlt', hstar]
      exact congrArg (· ++ '*' :: slice src a p2) (take_sub_cons _ _ _)
  rw [htext, slice_append src off p1 p2 h01 h12, slice_append src off p2 p3 (by omega) h23,
    slice_append src off p3 p4 (by omega) h34, slice_append src off p4 e (by omega) h4e]

/-- **Never fails**: the assertion `Regex did not match` cannot fire. -/
theorem parse_total (p : Parser) (src : Text) (off : Nat) (hoff : off ≤ src.length) :
    ∃ q, p.parse (some src) (some off) = .ok q :=
  let ⟨⟨_, _⟩, hm⟩ := Option.isSome_iff_exists.mp (gcodeLine_total src.toArray off (List.size_toArray ▸ hoff))
  ⟨_, parse_eq p hm⟩

/-- **Progress.** A line parsed before the end of the text is not empty. -/
theorem parse_progress (p q : Parser) (src : Text) (off : Nat) (hoff : off < src.length)
    (h : p.parse (some src) (some off) = .ok q) : 0 < q.length := by
  obtain ⟨e, caps, hm⟩ := matchAt_of_parse h
  rw [parse_eq p hm] at h
  cases h
  have := gcodeLine_progress src.toArray off e caps (List.size_toArray ▸ Nat.le_of_lt hoff) hm
  simp only [List.size_toArray] at this
  show 0 < e - off
  omega

theorem parse_resume (p : Parser) : p.parse none none = p.parse (some p.source) (some (p.offset + p.length)) := rfl

/-- what `parseLines` relies on about the current line -/
structure LineOK (src : Text) (q : Parser) : Prop where
  source : q.source = src
  bound : q.offset + q.length ≤ src.length
  full : q.fullText = slice src q.offset (q.offset + q.length)
  progress : q.offset < src.length → 0 < q.length

theorem parse_source_offset {p q : Parser} {src : Text} {off : Nat} (h : p.parse (some src) (some off) = .ok q) :
    q.source = src ∧ q.offset = off := by
  obtain ⟨e, caps, hm⟩ := matchAt_of_parse h
  rw [parse_eq p hm] at h
  cases h
  exact ⟨rfl, rfl⟩

theorem parse_lineOK (p : Parser) (src : Text) (off : Nat) (hoff : off ≤ src.length) :
    ∃ q, p.parse (some src) (some off) = .ok q ∧ LineOK src q ∧ q.offset = off := by
  obtain ⟨q, hq⟩ := parse_total p src off hoff
  obtain ⟨h1, h2⟩ := parse_lossless p q src off hoff hq
  obtain ⟨hs, ho⟩ := parse_source_offset hq
  refine ⟨q, hq, ⟨hs, ?_, ?_, ?_⟩, ho⟩ <;> rw [ho]
  · exact h2
  · exact h1
  · exact fun hlt => parse_progress p q src off hlt hq

theorem linesLoop_lossless (src : Text) :
    ∀ fuel (q : Parser), LineOK src q → src.length - q.offset < fuel →
      ∃ qs fin, Parser.linesLoop fuel q = .ok (qs, fin) ∧
        (qs.map Parser.fullText).flatten = src.drop q.offset ∧ fin.offset = src.length ∧
        (∀ x ∈ qs, x.offset < src.length ∧ 0 < x.length) ∧ fin.fullText = [] := by
  intro fuel
  induction fuel with
  | zero => intro q _ h; omega
  | succ f ih =>
    intro q hq hf
    unfold Parser.linesLoop
    rw [hq.source]
    by_cases hlt : q.offset < src.length
    · simp only [hlt, if_true]
      have hpos := hq.progress hlt
      obtain ⟨q', hp', hok', ho'⟩ := parse_lineOK q src (q.offset + q.length) hq.bound
      rw [parse_resume, hq.source, hp']
      obtain ⟨qs, fin, hl, hcat, hfin, hall, hempty⟩ := ih q' hok' (by rw [ho']; omega)
      refine ⟨q :: qs, fin, ?_, ?_, hfin, ?_, hempty⟩
      · simp only [bind, Except.bind, hl]
      · simp only [List.map_cons, List.flatten_cons, hcat, ho', hq.full]
        exact slice_drop src _ _ (by omega)
      · intro x hx
        rcases List.mem_cons.mp hx with rfl | hx
        · exact ⟨hlt, hpos⟩
        · exact hall x hx
    · simp only [hlt, if_false]
      have hb := hq.bound
      have he : q.offset = src.length := by omega
      refine ⟨[], q, ?_, ?_, he, ?_, ?_⟩
      · rfl
      · exact (he ▸ List.drop_length).symm
      · intro x hx; cases hx
      · rw [hq.full, Nat.add_comm, slice, Nat.add_sub_cancel, he, List.drop_length, List.take_nil]

/-- **Lossless, complete consumption.**  `parseLines` never fails; the full texts of its lines
concatenate to the text from the starting offset, and the parser ends on an empty line at the end. -/
theorem parseLines_lossless (p : Parser) (src : Text) (off : Nat) (hoff : off ≤ src.length) :
    ∃ qs fin, p.parseLines (some src) (some off) = .ok (qs, fin) ∧
      (qs.map Parser.fullText).flatten = src.drop off ∧ fin.offset = src.length ∧
      (∀ x ∈ qs, x.offset < src.length ∧ 0 < x.length) ∧ fin.fullText = [] := by
  obtain ⟨q, hq, hok, ho⟩ := parse_lineOK p src off hoff
  obtain ⟨qs, fin, hl, hcat, hrest⟩ := linesLoop_lossless src (src.length + 1) q hok (by omega)
  refine ⟨qs, fin, ?_, by rw [← ho]; exact hcat, hrest⟩
  unfold Parser.parseLines
  simp only [bind, Except.bind, hq, hok.source, hl]

theorem parseLines_whole (p : Parser) (src : Text) :
    ∃ qs fin, p.parseLines (some src) none = .ok (qs, fin) ∧ (qs.map Parser.fullText).flatten = src := by
  obtain ⟨qs, fin, h, hc, -⟩ := parseLines_lossless p src 0 (Nat.zero_le _)
  exact ⟨qs, fin, h, hc⟩

/-- non-vacuity: three lines, one with line number and checksum -/
example : ((({} : Parser).parseLines (some "N3 G1 X1*7 ; c\r\n  hello\nM117 x".toList) none).toOption.map
    (fun r => r.1.map Parser.fullText)) =
    some ["N3 G1 X1*7 ; c\r\n".toList, "  hello\n".toList, "M117 x".toList] := by decide +kernel

/-- **`_splitGcodeScript` never fails and yields no empty line** (that the configured lines come from
it is outside the model). -/
theorem splitGcodeScript_spec (t : Option Text) :
    ∃ r, splitGcodeScript t = .ok r ∧ ∀ ls, r = some ls → ∀ l ∈ ls, l ≠ [] := by
  cases t with
  | none => exact ⟨none, rfl, fun ls h => by cases h⟩
  | some s =>
    obtain ⟨qs, fin, h, _⟩ := parseLines_lossless ({} : Parser) s 0 (Nat.zero_le _)
    have h' : ({} : Parser).parseLines (some s) = .ok (qs, fin) := h
    refine ⟨_, by simp only [splitGcodeScript, h', bind, Except.bind]; rfl, ?_⟩
    intro ls hls l hl
    split at hls
    · cases hls
    · cases hls
      have := (List.mem_filter.mp hl).2
      intro he
      rw [he] at this
      cases this

end ERP.C18
