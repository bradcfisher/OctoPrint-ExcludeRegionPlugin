import ERP.Lemmas.EStep
import ERP.Properties.C03
-- ties (no lemma used below): a change of the translated source breaks this module
import ERP.Lemmas.GenArith
import ERP.Lemmas.GenTies
/-! # C04 — Extruder coordinate and extruded amounts are preserved outside regions

`phys` executes what the filter forwards, `virt` executes the unfiltered file.  The theorems hold
for every program of the protocol `EDialect` (see `Lemmas/EStep.lean`): moves that never retract,
matched retract/recover cycles of one length `A` (E-only) or `G10`/`G11`, not mixed, `G92 E`
anywhere, mm or inch, any regions and any way episodes begin and end — together with the X/Y/Z
dialect of C03.  Extrusion is absolute from the start state on and stays so (`EInv.abs`). -/
namespace ERP.C04
open T Spec

-- one instance list for the file
set_option linter.unusedSectionVars false
variable {α : Type} [Field α] [LinearOrder α] [IsStrictOrderedRing α] [MathOps α] [MathSpec α]

/-- consistency of filter, physical and virtual printer, including the extruder -/
structure GoodE (pr : EProto α) (y : Sys α) : Prop where
  good : C03.Good y
  einv : EInv pr y.s y.phys.ev y.virt.ev

/-- every command of the program obeys the X/Y/Z dialect and the extrusion protocol at the state
in which it is processed -/
def ProtoRun (pr : EProto α) (cfg : Config) (inch : α) : Sys α → List (Ev α) → Prop
  | _, [] => True
  | y, e :: es =>
    DialectEv y.s e ∧ EDialectEv pr cfg y.s y.virt.ev e ∧
      ProtoRun pr cfg inch (y.step cfg inch e) es

theorem goodE_step (pr : EProto α) (cfg : Config) (inch : α) (hinch : inch ≠ 0) (y : Sys α)
    (e : Ev α) (hg : GoodE pr y) (hd : DialectEv y.s e) (he : EDialectEv pr cfg y.s y.virt.ev e) :
    GoodE pr (y.step cfg inch e) :=
  ⟨C03.good_step cfg inch hinch y e hg.good hd,
   sys_step_einv cfg inch pr y e hg.good.wf hg.good.inv.pend hg.einv he⟩

theorem goodE_run (pr : EProto α) (cfg : Config) (inch : α) (hinch : inch ≠ 0)
    (es : List (Ev α)) :
    ∀ y : Sys α, GoodE pr y → ProtoRun pr cfg inch y es → GoodE pr (y.run cfg inch es) := by
  induction es with
  | nil => intro y h _; exact h
  | cons e rest ih =>
    intro y h hd
    exact ih _ (goodE_step pr cfg inch hinch y e h hd.1 hd.2.1) hd.2.2

/-- the homed start configuration is consistent (non-vacuity; any regions, either style) -/
theorem goodE_start (pr : EProto α) (regions : List (Region α)) :
    GoodE pr (Sys.start regions) := by
  refine ⟨C03.good_start regions, ?_⟩
  have he : (Sys.start regions : Sys α).s.position.e.absoluteMode = true := by
    show (handleG28 (FState.reset regions) _).position.e.absoluteMode = true
    rw [handleG28_eq]
    rfl
  have hl : (Sys.start regions : Sys α).s.lastRetraction = none := rfl
  have d : ∀ p : Printer α, p.fil = 0 → p.hw = 0 → p.ev.depth = 0 := fun p h1 h2 => by
    show p.hw - p.fil = 0
    rw [h1, h2, sub_zero]
  refine ⟨rfl, he, sameFrame.refl _, fun _ => rfl, ?_⟩
  rw [hl]
  exact retrInv_iff.mpr ⟨retd_false.mpr ⟨d _ rfl rfl, rfl⟩, retd_false.mpr ⟨d _ rfl rfl, rfl⟩,
    fun _ h => by cases h⟩

/-- **C04 (coordinate).** In every configuration reachable by a program of the protocol, whenever
no episode is open the extruder axis of the printer — coordinate, offsets, mode and unit — is
exactly the one the file assumes. -/
theorem C04_coordinate (pr : EProto α) (cfg : Config) (inch : α) (hinch : inch ≠ 0)
    (regions : List (Region α))
    (es : List (Ev α)) (hd : ProtoRun pr cfg inch (Sys.start regions) es)
    (hout : ((Sys.start regions).run cfg inch es).s.excluding = false) :
    ((Sys.start regions).run cfg inch es).phys.pos.e =
      ((Sys.start regions).run cfg inch es).virt.pos.e := by
  have hi := (goodE_run pr cfg inch hinch es _ (goodE_start pr regions) hd).einv
  exact (axis_eq_of hi.frame (hi.sync hout)).trans hi.track

def isLinear (g : String) : Prop := Code.ofString g = .G0 ∨ Code.ofString g = .G1

def isArc (g : String) : Prop := Code.ofString g = .G2 ∨ Code.ofString g = .G3

/-- the arc is executed: a centre offset is given -/
def arcExecuted (c : Cmd α) : Prop :=
  (!((lastValue c.words 'I').getD 0 == 0) || !((lastValue c.words 'J').getD 0 == 0)) = true

/-- on the extruder view an executed I/J arc acts like a linear move with its E word -/
theorem arc_exec (g90e : Bool) (inch : α) (g : String) (c : Cmd α) (ha : isArc g)
    (hc : c.code = g)
    (hx : arcExecuted c) (Q : EV α) :
    Q.out g90e inch (.orig c) = Q.lin (lastValue c.words 'E') := by
  unfold arcExecuted at hx
  simp only [EV.out, hc]
  rcases ha with h | h <;> rw [h] <;> simp only [EV.exec, hx, if_true]

/-- **One command of the protocol, in the observed system**: `gcode_estep` over the printers -/
theorem step_estep (pr : EProto α) (cfg : Config) (inch : α) (y : Sys α) (g : String) (c : Cmd α)
    (hg : GoodE pr y) (he : EDialect pr cfg y.s y.virt.ev g c) :
    EStep cfg.g90InfluencesExtruder inch pr y.s.excluding y.phys.ev y.virt.ev
      (y.step cfg inch (.gcode g c)).virt.ev c
      ((y.step cfg inch (.gcode g c)).s,
        Emit.forwarded (.gcode g c) (stepT cfg inch y.s (.gcode g c)).2) := by
  simp only [Sys.step, stepT, ev_exec, forwarded_gcode]
  exact gcode_estep cfg inch pr y.s _ _ g c hg.good.wf.pos.e hg.einv hg.good.inv.pend he

/-- a command that acts on every printer as a move with its E word (`hact`: a linear move, an
executed arc), extrudes and is handled outside regions -/
theorem amount_of (pr : EProto α) (cfg : Config) (inch : α) (y : Sys α) (g : String) (c : Cmd α)
    (hg : GoodE pr y) (he : EDialect pr cfg y.s y.virt.ev g c)
    (hact : ∀ Q : EV α, Q.out cfg.g90InfluencesExtruder inch (.orig c) = Q.lin (lastValue c.words 'E'))
    (hpre : y.s.excluding = false)
    (hpost : (y.step cfg inch (.gcode g c)).s.excluding = false)
    (hpos : 0 < T.deltaEOf y.s (lastValue c.words 'E')) :
    ∃ pre, Emit.forwarded (.gcode g c) (stepT cfg inch y.s (.gcode g c)).2 = pre ++ [.orig c] ∧
      (y.phys.execOuts cfg.g90InfluencesExtruder inch pre).pos.e = y.virt.pos.e ∧
      (y.phys.execOuts cfg.g90InfluencesExtruder inch pre).depth = y.virt.depth ∧
      (y.phys.execOuts cfg.g90InfluencesExtruder inch pre).fwRetracted = y.virt.fwRetracted ∧
      ((y.phys.execOuts cfg.g90InfluencesExtruder inch pre).execOut cfg.g90InfluencesExtruder inch
            (.orig c)).fil - (y.phys.execOuts cfg.g90InfluencesExtruder inch pre).fil
        = (y.virt.execOut cfg.g90InfluencesExtruder inch (.orig c)).fil - y.virt.fil := by
  have hV : (y.step cfg inch (.gcode g c)).virt.ev = y.virt.ev.lin (lastValue c.words 'E') := by
    rw [← hact]
    simp only [Sys.step, ev_exec, EV.out, he.1]
  obtain ⟨pre, k1, k2⟩ := (step_estep pr cfg inch y g c hg he).pre hpre hpost (by
    rw [hV]
    refine sub_pos.mp ?_
    rw [EV.lin_fil, ← hg.einv.track, moveAxis_eq_setLog]
    exact deltaEOf_eq y.s _ ▸ hpos)
  rw [← ev_execOuts] at k2
  refine ⟨pre, k1, k2.e, k2.depth, k2.fw, ?_⟩
  -- printer and file execute the command as the same move, from the same axis
  show ((y.phys.execOuts cfg.g90InfluencesExtruder inch pre).execOut _ inch (.orig c)).ev.fil -
      (y.phys.execOuts cfg.g90InfluencesExtruder inch pre).ev.fil =
    (y.virt.execOut _ inch (.orig c)).ev.fil - y.virt.ev.fil
  rw [ev_execOut, ev_execOut, hact, hact, EV.lin_fil, EV.lin_fil, k2.e]

/-- when a command of the protocol is not forwarded itself, what is sent instead does not advance
the filament -/
theorem suppressed_of (pr : EProto α) (cfg : Config) (inch : α) (y : Sys α) (g : String)
    (c : Cmd α) (hg : GoodE pr y) (he : EDialect pr cfg y.s y.virt.ev g c)
    (hno : Out.orig c ∉ Emit.forwarded (.gcode g c) (stepT cfg inch y.s (.gcode g c)).2) :
    (y.step cfg inch (.gcode g c)).phys.fil ≤ y.phys.fil := by
  have := (step_estep pr cfg inch y g c hg he).noPush hno
  rw [← ev_execOuts] at this
  exact this

/-- **C04 (amounts).** A linear move or E-only command that extrudes (`deltaE > 0`) and is handled
outside regions (no episode open before or after it) is forwarded as the last element of the
filter's output; when the printer reaches it, its extruder axis is exactly the file's and its
retraction depth and firmware-retraction flag are the file's — so the command pushes exactly the
filament length the file specifies. -/
theorem C04_amount (pr : EProto α) (cfg : Config) (inch : α) (y : Sys α) (g : String)
    (c : Cmd α)
    (hg : GoodE pr y) (hl : isLinear g) (he : EDialect pr cfg y.s y.virt.ev g c)
    (hpre : y.s.excluding = false) (hpost : (y.step cfg inch (.gcode g c)).s.excluding = false)
    (hpos : 0 < T.deltaEOf y.s (lastValue c.words 'E')) :
    ∃ pre, Emit.forwarded (.gcode g c) (stepT cfg inch y.s (.gcode g c)).2 = pre ++ [.orig c] ∧
      (y.phys.execOuts cfg.g90InfluencesExtruder inch pre).pos.e = y.virt.pos.e ∧
      (y.phys.execOuts cfg.g90InfluencesExtruder inch pre).depth = y.virt.depth ∧
      (y.phys.execOuts cfg.g90InfluencesExtruder inch pre).fwRetracted = y.virt.fwRetracted ∧
      ((y.phys.execOuts cfg.g90InfluencesExtruder inch pre).execOut cfg.g90InfluencesExtruder inch
            (.orig c)).fil
          - (y.phys.execOuts cfg.g90InfluencesExtruder inch pre).fil
        = (y.step cfg inch (.gcode g c)).virt.fil - y.virt.fil := by
  have hc : c.code = g := he.1
  have := amount_of pr cfg inch y g c hg he
    (fun Q => by rcases hl with h | h <;> simp only [EV.out, hc, h, EV.exec]) hpre hpost hpos
  simpa only [Printer.execOut, hc, Sys.step] using this

/-- **C04 (suppressed commands).** When the filter does not forward a linear move or E-only
command itself, whatever it sends instead (an in-region retraction, the exit sequence, a
coordinate re-sync, or nothing) does not advance the filament. -/
theorem C04_suppressed (pr : EProto α) (cfg : Config) (inch : α) (y : Sys α) (g : String)
    (c : Cmd α)
    (hg : GoodE pr y) (hl : isLinear g) (he : EDialect pr cfg y.s y.virt.ev g c)
    (hno : Out.orig c ∉ Emit.forwarded (.gcode g c) (stepT cfg inch y.s (.gcode g c)).2) :
    (y.step cfg inch (.gcode g c)).phys.fil ≤ y.phys.fil :=
  suppressed_of pr cfg inch y g c hg he hno

/-- **C04 (amounts), arcs.** An executed arc that extrudes and is handled outside regions is
forwarded last, and the printer reaches it with the file's extruder axis, retraction depth and
firmware-retraction flag.  (The first four clauses of `C04_amount`; the filament clause for arcs
is the last one of `amount_via`, through `arc_via`.) -/
theorem C04_amount_arc (pr : EProto α) (cfg : Config) (inch : α) (y : Sys α) (g : String)
    (c : Cmd α)
    (hg : GoodE pr y) (ha : isArc g) (hx : arcExecuted c) (he : EDialect pr cfg y.s y.virt.ev g c)
    (hpre : y.s.excluding = false) (hpost : (y.step cfg inch (.gcode g c)).s.excluding = false)
    (hpos : 0 < T.deltaEOf y.s (lastValue c.words 'E')) :
    ∃ pre, Emit.forwarded (.gcode g c) (stepT cfg inch y.s (.gcode g c)).2 = pre ++ [.orig c] ∧
      (y.phys.execOuts cfg.g90InfluencesExtruder inch pre).pos.e = y.virt.pos.e ∧
      (y.phys.execOuts cfg.g90InfluencesExtruder inch pre).depth = y.virt.depth ∧
      (y.phys.execOuts cfg.g90InfluencesExtruder inch pre).fwRetracted = y.virt.fwRetracted := by
  obtain ⟨pre, k1, k2, k3, k4, _⟩ := amount_of pr cfg inch y g c hg he
    (arc_exec cfg.g90InfluencesExtruder inch g c ha he.1 hx) hpre hpost hpos
  exact ⟨pre, k1, k2, k3, k4⟩

/-- **C04 (suppressed commands), arcs.** When the filter does not forward an executed arc, what
it sends instead does not advance the filament. -/
theorem C04_suppressed_arc (pr : EProto α) (cfg : Config) (inch : α) (y : Sys α) (g : String)
    (c : Cmd α)
    (hg : GoodE pr y) (ha : isArc g) (hx : arcExecuted c) (he : EDialect pr cfg y.s y.virt.ev g c)
    (hno : Out.orig c ∉ Emit.forwarded (.gcode g c) (stepT cfg inch y.s (.gcode g c)).2) :
    (y.step cfg inch (.gcode g c)).phys.fil ≤ y.phys.fil :=
  suppressed_of pr cfg inch y g c hg he hno

end ERP.C04
