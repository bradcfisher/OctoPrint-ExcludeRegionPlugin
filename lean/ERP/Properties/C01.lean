import ERP.Properties.C03
import ERP.Lemmas.GenTies -- tie to /repo
/-! # C01 — No motion into and no extrusion inside an excluded region (X/Y/Z part)

Stated for the dialect `Dialect` (see `StepInv`): the full dialect of the property minus arcs in
relative mode (known finding K-D5), R-form arcs (K-D10) and `G28` inside an open episode (K-D18).
The filament clause is stated for commands handled through `processLinearMoves` only
(`C04_suppressed`, `C04_suppressed_arc`); here: positions. -/
namespace ERP.C01
open T Spec

section
variable {α : Type} [Field α] [LinearOrder α] [MathOps α]

/-- the physical X/Y/Z positions (not the frames) -/
def sameSpot (p q : Printer α) : Prop :=
  p.pos.x.current = q.pos.x.current ∧ p.pos.y.current = q.pos.y.current ∧
  p.pos.z.current = q.pos.z.current

theorem plm_no_motion_into_region (cfg : Config) (s : FState α) (phys phys' : Printer α)
    (cmd : Cmd α) (E F Z X Y : Option α) (h : WF s) (hinv : InvXYZ s phys)
    (hinv' : InvXYZ (T.processLinearMoves cfg s cmd E F Z [(X, Y)]).1 phys')
    (hstay : s.excluding = true → (T.processLinearMoves cfg s cmd E F Z [(X, Y)]).1.excluding = true →
      sameSpot phys' phys)
    (hmoved : phys'.pos.x.current ≠ phys.pos.x.current ∨ phys'.pos.y.current ≠ phys.pos.y.current) :
    (T.processLinearMoves cfg s cmd E F Z [(X, Y)]).1.excluding = false ∧
    XYZeq phys'.pos (T.processLinearMoves cfg s cmd E F Z [(X, Y)]).1.position ∧
    T.isPointExcluded (T.processLinearMoves cfg s cmd E F Z [(X, Y)]).1 (cur phys'.pos.x)
      (cur phys'.pos.y) = false := by
  have hc := plm_ctrl cfg s cmd E F Z [(X, Y)]
  have hpos := plm_pos cfg s cmd E F Z [(X, Y)] h.pos.e
  generalize (T.processLinearMoves cfg s cmd E F Z [(X, Y)]).1 = s' at *
  -- an open episode afterwards would mean the printer did not move
  have hnot : s'.excluding = false := by
    by_contra hne
    have hex' : s'.excluding = true := Bool.not_eq_false _ |>.mp hne
    have stood : sameSpot phys' phys := by
      cases hb : s.excluding
      · -- entering: the remembered position is where the printer stood
        have hh : hitOf s E F Z [(X, Y)] = true := by
          rw [hc.excluding] at hex'
          cases hm' : T.isMoveOf Z [(X, Y)] <;> rw [hm'] at hex'
          · exact absurd (hb.symm.trans hex') Bool.false_ne_true
          · exact hex'
        obtain ⟨b1, b2, b3⟩ := hinv'.held hex' (lp := s.position) (by rw [hc.lastPos, hh, hb]; rfl)
        obtain ⟨f1, f2, f3⟩ := hinv.free hb
        exact ⟨by rw [b1, f1]; rfl, by rw [b2, f2]; rfl, by rw [b3, f3]; rfl⟩
      · exact hstay hb hex'
    exact hmoved.elim (fun h => h stood.1) (fun h => h stood.2.1)
  have hxyz := hinv'.free hnot
  refine ⟨hnot, hxyz, ?_⟩
  obtain ⟨q1, q2, -⟩ := hxyz
  rw [hc.excluding] at hnot
  cases hm' : T.isMoveOf Z [(X, Y)] <;> rw [hm'] at hnot
  · -- not a move: X and Y would be untouched
    obtain ⟨f1, f2, -⟩ := hinv.free hnot
    rw [movedPos_of_not_move _ _ hm'] at hpos
    rw [q1, q2, hpos, f1, f2] at hmoved
    exact hmoved.elim (fun h => absurd rfl h) (fun h => absurd rfl h)
  · -- a move that was not excluded: the test was made at the destination
    rw [if_pos rfl, hitOf_singleton, hm', Bool.true_and] at hnot
    rw [T.isPointExcluded, q1, q2, hpos, hc.regions, hc.enabled]
    exact hnot

end

variable {α : Type} [Field α] [LinearOrder α] [IsStrictOrderedRing α] [MathOps α] [MathSpec α]

/-- Inside an episode the printer stands after a step where it stood, arcs included. -/
theorem episode_no_motion (cfg : Config) (inch : α) (hinch : inch ≠ 0) (y : Sys α)
    (hg : C03.Good y) (g : String) (c : Cmd α) (hd : Dialect y.s g c)
    (hbefore : y.s.excluding = true) (hafter : (y.step cfg inch (.gcode g c)).s.excluding = true) :
    sameSpot (y.step cfg inch (.gcode g c)).phys y.phys := by
  have hg' := C03.good_step cfg inch hinch y (.gcode g c) hg hd
  obtain ⟨lp, hlp, -⟩ := hg.wf.lastPos hbefore
  obtain ⟨a1, a2, a3⟩ := hg.inv.held hbefore hlp
  obtain ⟨b1, b2, b3⟩ := hg'.inv.held hafter
    ((lastPosition_kept cfg inch y.s g c hbefore).trans hlp)
  exact ⟨by rw [b1, a1]; rfl, by rw [b2, a2]; rfl, by rw [b3, a3]; rfl⟩

/-- **(ii) Inside an episode nothing moves.** If an episode is open before and after a command of
the dialect, then after the step (retractions, pass-through codes, mode changes forwarded) the
printer's X, Y and Z stand where they stood. -/
theorem episode_no_motion_linear (cfg : Config) (inch : α) (hinch : inch ≠ 0) (y : Sys α)
    (hg : C03.Good y) (g : String) (c : Cmd α) (hd : Dialect y.s g c)
    (hcode : Code.ofString g ≠ .G2 ∧ Code.ofString g ≠ .G3)
    (hbefore : y.s.excluding = true) (hafter : (y.step cfg inch (.gcode g c)).s.excluding = true) :
    sameSpot (y.step cfg inch (.gcode g c)).phys y.phys :=
  episode_no_motion cfg inch hinch y hg g c hd hbefore hafter

/-- **(i) No motion into a region.** If processing a linear move changed the printer's X or Y at
all, then no episode is open afterwards, the printer stands exactly at the tracked destination, and
that point is in no enabled region (`isPointExcluded` is false there). -/
theorem no_motion_into_region (cfg : Config) (inch : α) (hinch : inch ≠ 0) (y : Sys α)
    (hg : C03.Good y) (g : String) (c : Cmd α) (hd : Dialect y.s g c)
    (hcode : Code.ofString g = .G0 ∨ Code.ofString g = .G1)
    (hmoved : (y.step cfg inch (.gcode g c)).phys.pos.x.current ≠ y.phys.pos.x.current ∨
              (y.step cfg inch (.gcode g c)).phys.pos.y.current ≠ y.phys.pos.y.current) :
    let y' := y.step cfg inch (.gcode g c)
    y'.s.excluding = false ∧ XYZeq y'.phys.pos y'.s.position ∧
    T.isPointExcluded y'.s (cur y'.phys.pos.x) (cur y'.phys.pos.y) = false := by
  intro y'
  have hg' : C03.Good y' := C03.good_step cfg inch hinch y (.gcode g c) hg hd
  have hstay := episode_no_motion cfg inch hinch y hg g c hd
  have e : y'.s = (T.processLinearMoves cfg y.s c (lastValue c.words 'E') (lastValue c.words 'F')
      (lastValue c.words 'Z') [(lastValue c.words 'X', lastValue c.words 'Y')]).1 :=
    congrArg Prod.fst (handleGcode_linear cfg inch y.s c hcode)
  rw [e]
  exact plm_no_motion_into_region cfg y.s y.phys y'.phys c _ _ _ _ _ hg.wf hg.inv (e ▸ hg'.inv)
    (fun hb ha => hstay hb (e.symm ▸ ha)) hmoved

set_option linter.unusedSectionVars false in
/-- K-D18, stated on the model: homing inside an open episode is forwarded (result `None`). -/
theorem home_in_episode_counterexample (cfg : Config) (inch : α) (s : FState α) (cmd : Cmd α) :
    (T.handleGcode cfg inch s "G28" cmd).2 = .none := rfl

end ERP.C01
