import Mathlib.Data.List.Nodup
import ERP.Lemmas.PluginSpec
import ERP.Lemmas.GenTies
/-! # C13 — Region registry integrity and client notification

Over API requests (valid, duplicate id, unknown id, wrong type, anonymous) interleaved with
events and settings saves: `ids_nodup_step`, `notify_exactly_once`, `registry_invariant`. -/
namespace ERP.C13

variable {α : Type} [Add α] [Sub α] [Mul α] [Div α] [Neg α] [LT α] [LE α] [BEq α]
  [OfNat α 0] [OfNat α 1] [OfNat α 2] [DecidableLT α] [DecidableLE α] [MathOps α] [OfDecimal α]

/-- The operations C13 quantifies over: events, settings saves, API requests, GET.  The hooks are
left out: that they keep the region list is proved about the filter and not brought in here, so a
history in `registry_invariant` contains no G-code. -/
def RegistryOp : POp α → Prop
  | .event _ | .save _ | .api _ _ | .get => True
  | _ => False

def ids (p : Plugin α) : List String := p.st.excludedRegions.map Region.id

/-- Region ids stay unique. -/
theorem ids_nodup_step (inch : α) (p : Plugin α) (op : POp α) (hop : RegistryOp op)
    (h : (ids p).Nodup) : (ids (p.step inch op).1).Nodup := by
  cases op with
  | event e =>
    show ((p.onEvent e).st.excludedRegions.map Region.id).Nodup
    rcases onEvent_regions p e with ⟨h1, -⟩ | ⟨h1, -⟩ <;> rw [h1]
    · exact h
    · exact List.nodup_nil
  | save s => exact h
  | get => exact h
  | api anon req =>
    show (ids (p.onApiCommand anon req).1).Nodup
    rcases onApiCommand_spec p anon req with ⟨c, e⟩ | ⟨rs, he, e⟩ <;> rw [e]
    · exact h
    · rw [ids, Plugin.withRegions_regions]
      cases req with
      | add r =>
        obtain ⟨hg, rfl⟩ := he
        rw [List.map_append]
        exact h.append (List.nodup_singleton _)
          (fun a ha hb => getRegion_none hg (List.mem_singleton.mp hb ▸ ha))
      | update r => rw [replaceFirst_ids _ _ _ _ he]; exact h
      | delete i => exact h.sublist ((deleteFirst_sublist he.2).map _)
      | badType c => exact he.elim
      | unknown => exact he.elim
  | gcode _ _ => exact hop.elim
  | atCmd _ _ _ => exact hop.elim
  | script _ _ => exact hop.elim

/-- A rejected or unauthenticated request leaves the plugin (in particular the region list)
untouched. -/
theorem rejected_unchanged (inch : α) (p : Plugin α) (anon : Bool) (req : ApiReq α) (code : Nat)
    (h : (p.step inch (.api anon req)).2 = .resp (some code)) :
    (p.step inch (.api anon req)).1 = p := by
  simp only [Plugin.step] at h ⊢
  rcases onApiCommand_spec p anon req with ⟨c, e⟩ | ⟨rs, -, e⟩
  · rw [e]
  · rw [e] at h
    cases h

theorem anonymous_unchanged (inch : α) (p : Plugin α) (req : ApiReq α) :
    p.step inch (.api true req) = (p, .resp (some 403)) := rfl

/-- **Notification.** Every step either leaves both the region list and the notification log
alone, or appends exactly one notification whose payload is the new region list. -/
theorem notify_exactly_once (inch : α) (p : Plugin α) (op : POp α) (hop : RegistryOp op) :
    let p' := (p.step inch op).1
    (p'.st.excludedRegions = p.st.excludedRegions ∧ p'.notifications = p.notifications) ∨
    p'.notifications = p.notifications ++ [p'.st.excludedRegions] := by
  cases op with
  | event e =>
    rcases onEvent_regions p e with h | ⟨h1, h2⟩
    · exact .inl h
    · exact .inr (h2.trans (congrArg (fun l => p.notifications ++ [l]) h1.symm))
  | save s => exact .inl ⟨rfl, rfl⟩
  | get => exact .inl ⟨rfl, rfl⟩
  | api anon req =>
    simp only [Plugin.step]
    rcases onApiCommand_spec p anon req with ⟨c, e⟩ | ⟨rs, -, e⟩ <;> rw [e]
    · exact .inl ⟨rfl, rfl⟩
    · exact .inr (Plugin.withRegions_notifications p rs)
  | gcode _ _ => exact hop.elim
  | atCmd _ _ _ => exact hop.elim
  | script _ _ => exact hop.elim

/-- The GET response is the current list, in order. -/
theorem get_payload (inch : α) (p : Plugin α) :
    p.step inch .get = (p, .regions p.st.excludedRegions) := rfl

/-- Lifted to every history of registry operations from a freshly initialised plugin: ids are
pairwise distinct at all times, and the last notification (there is always one: `initialize`
sends it) carries the current list. -/
theorem registry_invariant (inch : α) (ops : List (POp α)) (hops : ∀ op ∈ ops, RegistryOp op) :
    ∀ p : Plugin α, (ids p).Nodup → p.notifications.getLast? = some p.st.excludedRegions →
      let p' := (Plugin.run inch p ops).1
      (ids p').Nodup ∧ p'.notifications.getLast? = some p'.st.excludedRegions := by
  induction ops with
  | nil => intro p h1 h2; exact ⟨h1, h2⟩
  | cons op rest ih =>
    intro p h1 h2
    have hop := hops op List.mem_cons_self
    have hn := ids_nodup_step inch p op hop h1
    have hl : (p.step inch op).1.notifications.getLast? = some (p.step inch op).1.st.excludedRegions := by
      rcases notify_exactly_once inch p op hop with ⟨e1, e2⟩ | e
      · rw [e1, e2]; exact h2
      · rw [e, List.getLast?_concat]
    exact ih (fun o ho => hops o (List.mem_cons_of_mem _ ho)) _ hn hl

set_option linter.unusedSectionVars false in
/-- The initial plugin satisfies the invariant (non-vacuity). -/
theorem initialize_invariant (st : Settings) :
    (ids (Plugin.initialize st : Plugin α)).Nodup ∧
    (Plugin.initialize st : Plugin α).notifications.getLast? =
      some (Plugin.initialize st : Plugin α).st.excludedRegions :=
  ⟨List.nodup_nil, rfl⟩

end ERP.C13
