import ERP.Properties.C09Text
import ERP.Lemmas.Track
import ERP.Lemmas.Ctrl
/-! # C09 — along a whole run, every command string the filter forwards is non-empty

`C09_run_outputs`, `C09_run_strings`; invariant `StoreOk`, hypotheses `CfgOk`, `EvOk`. -/
namespace ERP.C09

section
variable {α : Type}

/-- assumed: the configured enter/exit script lines are non-empty (in the plugin by
`_splitGcodeScript`: `C18.splitGcodeScript_spec`) -/
def CfgOk (cfg : Config) : Prop :=
  (∀ l, cfg.enteringExcludedRegionGcode = some l → ∀ t ∈ l, t ≠ []) ∧
  (∀ l, cfg.exitingExcludedRegionGcode = some l → ∀ t ∈ l, t ≠ [])

/-- every deferred command text is non-empty -/
def StoreOk (s : FState α) : Prop := ∀ g c, (g, Pending.cmd c) ∈ s.pendingCommands → c.text ≠ []

def OutsOk (l : List (Out α)) : Prop := ∀ o ∈ l, OutOk o

theorem OutsOk.nil : OutsOk ([] : List (Out α)) := List.forall_mem_nil _

theorem _root_.ERP.ESynth.outOk {o : Out α} (h : ESynth o) : OutOk o := by
  cases o with
  | orig c => exact h.elim
  | script b t => exact h.elim
  | _ => trivial

theorem _root_.ERP.NonMoveOuts.outsOk {e : Bool} {c : Cmd α} {l : List (Out α)} (h : NonMoveOuts e c l)
    (hc : c.text ≠ []) : OutsOk l :=
  h.all hc fun _ => ESynth.outOk

theorem enterLines_outsOk (cfg : Config) (hc : CfgOk cfg) :
    OutsOk (C06.enterLines cfg : List (Out α)) := by
  intro o ho
  obtain ⟨l, hl, t, ht, rfl⟩ := mem_enterLines ho
  exact hc.1 l hl t ht

theorem exitLines_outsOk (cfg : Config) (hc : CfgOk cfg) :
    OutsOk (C06.exitLines cfg : List (Out α)) := by
  intro o ho
  obtain ⟨l, hl, t, ht, rfl⟩ := mem_exitLines ho
  exact hc.2 l hl t ht

theorem flush_outsOk {s : FState α} (hs : StoreOk s) : OutsOk (C06.flush s.pendingCommands) := by
  intro o ho
  obtain ⟨⟨g, p⟩, hm, rfl⟩ := List.mem_map.mp ho
  cases p with
  | cmd c => exact hs g c hm
  | args a => trivial

theorem StoreOk.of_eq {s s' : FState α} (h : StoreOk s) (e : s'.pendingCommands = s.pendingCommands) : StoreOk s' := by
  intro g c hm; rw [e] at hm; exact h g c hm

def ResOk : Result α → Prop
  | .list l => OutsOk l
  | _ => True

theorem toResult_resOk (p : FState α × List (Out α)) (h : OutsOk p.2) : ResOk (T.toResult p).2 := by
  unfold T.toResult
  split
  · trivial
  · exact h

theorem processExtendedGcode_outsOk (cfg : Config) (s : FState α) (cmd : Cmd α) (g : String)
    (h : cmd.text ≠ []) (hs : StoreOk s) :
    ResOk (s.processExtendedGcode cfg cmd g).2 ∧ StoreOk (s.processExtendedGcode cfg cmd g).1 := by
  rcases processExtendedGcode_cases cfg s cmd g with e | ⟨-, m, e⟩ <;> rw [e]
  · exact ⟨trivial, hs⟩
  · refine ⟨trivial, fun g' c hm => ?_⟩
    rcases mem_processExtendedGcodeEntry hm with h' | h' | ⟨a, h'⟩
    · exact hs g' c h'
    · cases h'; exact h
    · cases h'

/-- the commands handed to the filter are non-empty strings -/
def EvOk : Ev α → Prop
  | .gcode _ c => c.text ≠ []
  | _ => True

end

variable {α : Type} [Field α] [LinearOrder α] [IsStrictOrderedRing α] [MathOps α] [MathSpec α]

set_option linter.unusedSectionVars false in
theorem OutsOk.append {a b : List (Out α)} (ha : OutsOk a) (hb : OutsOk b) : OutsOk (a ++ b) := by
  intro o h
  rcases List.mem_append.mp h with h | h
  · exact ha o h
  · exact hb o h

set_option linter.unusedSectionVars false in
theorem OutsOk.single {o : Out α} (h : OutOk o) : OutsOk [o] := by
  intro x hx
  simp only [List.mem_singleton] at hx
  subst hx; exact h

omit [IsStrictOrderedRing α] [MathSpec α] in
theorem exitTail_outsOk (s : FState α) : OutsOk (exitTail s) := by
  intro o ho
  rcases exitTail_mem ho with ⟨_, rfl⟩ | ⟨_, _, rfl⟩ | ⟨_, _, _, rfl⟩ <;> trivial

theorem exit_outsOk (cfg : Config) (hc : CfgOk cfg) (s : FState α) (hs : StoreOk s) :
    OutsOk (T.exitExcludedRegion cfg s).2 ∧ StoreOk (T.exitExcludedRegion cfg s).1 := by
  cases hex : s.excluding
  · unfold T.exitExcludedRegion
    rw [if_pos (by rw [hex]; rfl)]
    exact ⟨OutsOk.nil, hs⟩
  · rw [exit_outputs cfg s hex, processPendingCommands_snd, exitExcludedRegion_fst, if_pos hex]
    exact ⟨((flush_outsOk hs).append (exitLines_outsOk cfg hc)).append (exitTail_outsOk s),
      fun _ _ hm => nomatch hm⟩

theorem disable_outsOk (cfg : Config) (hc : CfgOk cfg) (s : FState α) (hs : StoreOk s) :
    OutsOk (T.disableExclusion cfg s).2 ∧ StoreOk (T.disableExclusion cfg s).1 := by
  rw [disableExclusion_eq]
  split
  · split
    · exact exit_outsOk cfg hc _ hs
    · exact ⟨OutsOk.nil, hs⟩
  · exact ⟨OutsOk.nil, hs⟩

theorem plm_outsOk (cfg : Config) (hc : CfgOk cfg) (s : FState α) (cmd : Cmd α) (e f z : Option α)
    (xy : List (Option α × Option α)) (h : cmd.text ≠ []) (hs : StoreOk s) :
    ResOk (T.processLinearMoves cfg s cmd e f z xy).2 ∧ StoreOk (T.processLinearMoves cfg s cmd e f z xy).1 := by
  constructor
  · have ht : StoreOk (tracked s e f z xy) := hs
    obtain ⟨more, eq, hm⟩ := processExcludedMove_outs cfg (tracked s e f z xy) cmd (T.deltaEOf s e)
    have hhit : OutsOk (T.processExcludedMove cfg (tracked s e f z xy) cmd (T.deltaEOf s e)).2 := by
      rw [eq]
      refine OutsOk.append ?_ fun o ho => (hm o ho).outOk
      split
      · exact OutsOk.nil
      · exact enterLines_outsOk cfg hc
    obtain ⟨r, e, hr⟩ := plm_cases (motive := fun r => OutsOk r.2) cfg s cmd e f z xy
      (fun _ => (nonMoveBody_outs _ cmd _ _).outsOk h) (fun _ _ => hhit)
      (fun _ _ _ => (exit_outsOk cfg hc _ ht).1)
      (fun _ _ _ _ => (recoverBranch_outs _ cmd false _).outsOk h) (fun _ _ _ _ => OutsOk.single h)
    rw [e]
    exact toResult_resOk _ hr
  · intro g c hm
    rw [(plm_ctrl cfg s cmd e f z xy).pending] at hm
    split at hm
    · cases hm
    · exact hs g c hm

theorem handleGcode_outsOk (cfg : Config) (hc : CfgOk cfg) (inch : α) (s : FState α) (g : String) (cmd : Cmd α)
    (h : cmd.text ≠ []) (hs : StoreOk s) :
    ResOk (T.handleGcode cfg inch s g cmd).2 ∧ StoreOk (T.handleGcode cfg inch s g cmd).1 :=
  handleGcode_kinds (motive := fun r => ResOk r.2 ∧ StoreOk r.1) cfg inch s g cmd ⟨trivial, hs⟩
    (fun _ _ _ _ _ => plm_outsOk cfg hc s cmd _ _ _ _ h hs)
    ⟨toResult_resOk _ ((recordRetraction_outs s _).outsOk h),
      toResult_fst _ ▸ hs.of_eq (recordRetraction_touch s _).pending⟩
    ⟨toResult_resOk _ ((recoverIfNeeded_outs s cmd true).outsOk h),
      toResult_fst _ ▸ hs.of_eq (recoverIfNeeded_touch s cmd true).pending⟩
    (fun _ _ => ⟨trivial, hs⟩) (processExtendedGcode_outsOk cfg s cmd g h hs)

theorem handleAt_outsOk (cfg : Config) (hc : CfgOk cfg) (s : FState α) (st : Bool) (cmd : String) (ps : Text)
    (hs : StoreOk s) :
    OutsOk (T.handleAtCommand cfg s st cmd ps).2.2 ∧ StoreOk (T.handleAtCommand cfg s st cmd ps).1 :=
  handleAtCommand_induction (motive := fun s' sent => OutsOk sent ∧ StoreOk s') cfg s st cmd ps
    ⟨OutsOk.nil, hs⟩ (fun _ _ h => h)
    fun s' _ h => ⟨h.1.append (disable_outsOk cfg hc s' h.2).1, (disable_outsOk cfg hc s' h.2).2⟩

theorem step_outsOk (cfg : Config) (hc : CfgOk cfg) (inch : α) (s : FState α) (e : Ev α) (he : EvOk e)
    (hs : StoreOk s) :
    OutsOk ((stepT cfg inch s e).2.forwarded e) ∧ StoreOk (stepT cfg inch s e).1 := by
  cases e with
  | gcode g c =>
    obtain ⟨h1, h2⟩ := handleGcode_outsOk cfg hc inch s g c he hs
    refine ⟨?_, h2⟩
    show OutsOk (Emit.forwarded (.gcode g c) (.result (T.handleGcode cfg inch s g c).2))
    rw [forwarded_gcode]
    cases hr : (T.handleGcode cfg inch s g c).2 with
    | none => exact OutsOk.single he
    | ignore => exact OutsOk.nil
    | list l => rw [hr] at h1; exact h1
  | atCmd st cmd ps =>
    exact handleAt_outsOk cfg hc s st cmd ps hs
  | addRegion r =>
    simp only [stepT]
    cases hr : s.addRegion r with
    | ok s' =>
      exact ⟨OutsOk.nil, addRegion_eq hr ▸ hs⟩
    | error _ => exact ⟨OutsOk.nil, hs⟩

/-- **C09 (non-empty command strings, whole runs).**  From a state whose deferred commands are
non-empty (in particular after `resetState`), for events whose commands are non-empty strings and
a configuration whose script lines are non-empty, everything the filter forwards — the command
itself, every replacement, every command sent by an @-command — satisfies `OutOk`; by
`render_nonempty` its text is non-empty. -/
theorem C09_run_outputs (cfg : Config) (hc : CfgOk cfg) (inch : α) (evs : List (Ev α)) :
    (∀ e ∈ evs, EvOk e) → ∀ s : FState α, StoreOk s →
      StoreOk (runT cfg inch s evs).1 ∧
      ∀ p ∈ List.zip evs (runT cfg inch s evs).2, OutsOk (p.2.forwarded p.1) := by
  induction evs with
  | nil => intro _ s hs; exact ⟨hs, by intro p hp; cases hp⟩
  | cons e es ih =>
    intro hev s hs
    have h1 := step_outsOk cfg hc inch s e (hev e (List.mem_cons_self ..)) hs
    have h2 := ih (fun e' he' => hev e' (List.mem_cons_of_mem _ he')) _ h1.2
    refine ⟨h2.1, ?_⟩
    intro p hp
    simp only [runT, List.zip_cons_cons, List.mem_cons] at hp
    rcases hp with rfl | hp
    · exact h1.1
    · exact h2.2 p hp

set_option linter.unusedSectionVars false in
/-- `StoreOk` holds after `resetState` -/
theorem reset_storeOk (regions : List (Region α)) : StoreOk (FState.reset regions) := by
  intro g c hm; cases hm

/-- the strings themselves -/
theorem C09_run_strings (nt : α → Text) (cfg : Config) (hc : CfgOk cfg) (inch : α) (evs : List (Ev α))
    (hev : ∀ e ∈ evs, EvOk e) (s : FState α) (hs : StoreOk s) :
    ∀ p ∈ List.zip evs (runT cfg inch s evs).2, ∀ o ∈ p.2.forwarded p.1, ∀ t, render nt o = .ok t → t ≠ [] := by
  intro p hp o ho t ht
  exact render_nonempty nt o t ((C09_run_outputs cfg hc inch evs hev s hs).2 p hp o ho) ht

end ERP.C09
