import ERP.Properties.C09
import ERP.Properties.C18
/-! # C09, text entry point; returned command strings are never empty

`C18.parse_total` (the line regex regenerated from the source matches at every offset of every
text) discharges the hypothesis of `C09_text_partial`. -/
namespace ERP.C09
open ERP.Rx

theorem cmdOfText_total {α : Type} [OfDecimal α] (cmd : Text) (g : String) :
    ∃ c : Cmd α, cmdOfText cmd g = .ok c := by
  obtain ⟨q, hq⟩ := C18.parse_total ({} : Parser) cmd 0 (Nat.zero_le _)
  have : ({} : Parser).parse (some cmd) = .ok q := hq
  exact ⟨_, by simp only [cmdOfText, this, M.ok_bind]; rfl⟩

section
variable {α : Type} [Field α] [LinearOrder α] [IsStrictOrderedRing α] [MathOps α] [MathSpec α]

/-- **C09 (text entry point).**  On a well-formed state, `handleGcode(cmd, gcode)` on *strings*
never raises, for every command text. -/
theorem C09_text [OfDecimal α] (cfg : Config) (inch : α) (hinch : inch ≠ 0) (s : FState α)
    (cmd gcode : Text) (h : WF s) :
    ∃ s' r, handleGcodeText cfg inch s cmd gcode = .ok (s', r) ∧ WF s' ∧ Result.Shape r := by
  obtain ⟨c, hc⟩ := cmdOfText_total (α := α) cmd (String.ofList (gcode.map upperC))
  exact C09_text_partial cfg inch hinch s cmd gcode c hc h

end

theorem setGcode_gcode_some (p q : Parser) (value : Text) (h : p.setGcode value = .ok q) :
    ∃ g, q.gcode = some g ∧ g ≠ [] := by
  unfold Parser.setGcode at h
  split at h
  · cases h
  · rename_i e c hm
    cases h
    have hcaps := gcodeCode_caps value.toArray e c hm
    rw [List.size_toArray] at hcaps
    -- either way the type is one character of the text and the code a non-empty slice of it
    rcases hcaps with ⟨a, q1, q2, c1, ha, c2, hq, hq2⟩ | ⟨a, q1, q2, c1, c2, c4, ha, c5, hq, hq2⟩
    · obtain ⟨d, ds, hd⟩ := List.exists_cons_of_ne_nil (slice_ne_nil value q1 q2 hq hq2)
      simp only [Parser.gcodeMatch, Parser.gcode, capText_single c1 ha, capText_of c2 hd, Option.map_some,
        List.isEmpty_cons, Bool.false_eq_true, if_false]
      exact ⟨_, rfl, List.cons_ne_nil _ _⟩
    · simp only [Parser.gcodeMatch, Parser.gcode, capText_none c1, capText_none c2, capText_single c4 ha,
        capText_of c5 rfl, Option.map_some]
      exact ⟨_, rfl, List.cons_ne_nil _ _⟩

theorem stringify_nonempty (p : Parser) (g : Text) (hg : p.gcode = some g) (hne : g ≠ []) (sep : Text)
    (lw ln : Bool) (cs : Option Bool) (cm eol : Bool) : p.stringify sep lw ln cs cm eol ≠ [] := by
  unfold Parser.stringify
  simp only [hg]
  -- the text contains `sep.intercalate l` for some `l` holding the code word `w`
  have fin : ∀ w : Text, w ≠ [] → ∀ (A B C X : Text) (l : List Text) (b : Bool), w ∈ l →
      A ++ (if b = true then (sep.intercalate l ++ sep, X) else (sep.intercalate l, ([] : Text))).1 ++
        (if b = true then (sep.intercalate l ++ sep, X) else (sep.intercalate l, ([] : Text))).2 ++ B ++ C ≠ [] := by
    intro w hwne A B C X l b hl h
    have hR := intercalate_ne_nil_of_mem sep l w hl hwne
    cases b <;> simp only [if_true, if_false, Bool.false_eq_true, List.append_eq_nil_iff] at h
    · exact hR h.1.1.1.2
    · exact hR h.1.1.1.2.1
  have hm : ∀ (w : Text) (pl : List Text),
      w ∈ (match p.parameters with | some ps => pl ++ [w] ++ [ps] | none => pl ++ [w]) := by
    intro w pl
    cases p.parameters <;> simp only [List.mem_append, List.mem_singleton, true_or, or_true]
  -- the code word is `g`, with the sub-code when there is one
  cases p.subCode with
  | none => cases ln <;> cases p.lineNumber <;> exact fin g hne _ _ _ _ _ _ (hm _ _)
  | some sc =>
    cases ln <;> cases p.lineNumber <;>
      exact fin (g ++ '.' :: natToText sc) (fun h => hne (List.append_eq_nil_iff.mp h).1) _ _ _ _ _ _ (hm _ _)

/-- `buildCommand(gcode, **args)` never returns the empty string -/
theorem buildCommand_nonempty {α : Type} (nt : α → Text) (gcode : Text) (args : List (Char × Option α)) (t : Text)
    (h : buildCommand nt gcode args = .ok t) : t ≠ [] := by
  unfold buildCommand at h
  cases hs : ({} : Parser).setGcode gcode with
  | error e => rw [hs] at h; cases h
  | ok q =>
    rw [hs] at h
    obtain ⟨g, hg, hne⟩ := setGcode_gcode_some _ q gcode hs
    simp only [bind, Except.bind] at h
    split at h
    · cases h
    · cases h
      -- `gcode` reads type and code only, not the parameters just set
      refine stringify_nonempty _ g ?_ hne _ _ _ _ _ _
      exact hg

/-- what the filter may return besides synthesised commands: a command it was given (also a deferred
one) or a script line -/
def OutOk {α : Type} : Out α → Prop
  | .orig c => c.text ≠ []
  | .script _ t => t ≠ []
  | _ => True

/-- **Every command string the filter returns is non-empty**, provided the commands it was given
and the configured script lines are (assumed of the configuration; `C18.splitGcodeScript_spec` is why
it holds in the plugin): a template begins with its `G`, a merged command is `buildCommand_nonempty`. -/
theorem render_nonempty {α : Type} (nt : α → Text) (o : Out α) (t : Text) (ho : OutOk o)
    (h : render nt o = .ok t) : t ≠ [] := by
  cases o with
  | orig c => cases h; exact ho
  | script b s => cases h; exact ho
  | g92e e =>
    obtain ⟨te, -, h⟩ := M.bind_eq_ok h
    cases h
    exact List.cons_ne_nil 'G' _
  | g0z f z =>
    obtain ⟨tf, -, h⟩ := M.bind_eq_ok h
    obtain ⟨tz, -, h⟩ := M.bind_eq_ok h
    cases h
    exact List.cons_ne_nil 'G' _
  | g0xy f x y =>
    obtain ⟨tf, -, h⟩ := M.bind_eq_ok h
    obtain ⟨tx, -, h⟩ := M.bind_eq_ok h
    obtain ⟨ty, -, h⟩ := M.bind_eq_ok h
    cases h
    exact List.cons_ne_nil 'G' _
  | g1fe f e =>
    obtain ⟨tf, -, h⟩ := M.bind_eq_ok h
    obtain ⟨te, -, h⟩ := M.bind_eq_ok h
    cases h
    exact List.cons_ne_nil 'G' _
  | fw recover orig =>
    -- not `cases h`: substituting `t` makes the unifier look into `retractParams orig`
    rw [← Except.ok.inj h]
    cases recover <;> cases (retractParams orig).isEmpty <;> exact List.cons_ne_nil 'G' _
  | merged g args => exact buildCommand_nonempty nt _ args t h

end ERP.C09
