import ERP.Properties.C04
-- a tie (no lemma used below): a change of the retraction pattern breaks this module
import ERP.Lemmas.RetractExact
/-! # C05 — Retractions are never doubled and are recovered before printing resumes

Same setting and protocol as C04 (`ERP.C04.ProtoRun`): matched retract/recover cycles of one
length `A` (E-only), or `G10`/`G11`, not mixed; every way episodes can begin and end relative to
those cycles.  `depth` is the physical retraction depth of a printer: its filament high-water mark
minus the filament position. -/
namespace ERP.C05
open T ERP.C04

-- one instance list for the file
set_option linter.unusedSectionVars false
variable {α : Type} [Field α] [LinearOrder α] [IsStrictOrderedRing α] [MathOps α] [MathSpec α]

/-- **Never shallower than the file assumes, never doubled.**  In every reachable configuration
the printer is retracted at least as deep as the file currently assumes, and its depth is either
`0` or exactly one retraction length `A`, the firmware flag clear (E-only style); resp. its depth
is `0`, as is the file's, and it is flagged whenever the file is (firmware style; flagged while
the file is not is the state in which a recovery is owed). -/
theorem C05_depth (pr : EProto α) (cfg : Config) (inch : α) (hinch : inch ≠ 0)
    (regions : List (Region α))
    (es : List (Ev α)) (hd : ProtoRun pr cfg inch (Sys.start regions) es) :
    let y := (Sys.start regions).run cfg inch es
    y.virt.depth ≤ y.phys.depth ∧ 0 ≤ y.virt.depth ∧
    (pr.fw = false →
      (y.phys.depth = 0 ∨ y.phys.depth = pr.A) ∧ y.phys.fwRetracted = false) ∧
    (pr.fw = true → y.phys.depth = 0 ∧ y.virt.depth = 0 ∧
      (y.virt.fwRetracted = true → y.phys.fwRetracted = true)) := by
  intro y
  have hg := goodE_run pr cfg inch hinch es _ (goodE_start pr regions) hd
  obtain ⟨hP, hV, _⟩ := retrInv_iff.mp hg.einv.retr
  have hn := hg.einv.retr.nonneg
  refine ⟨hn.2.2, hn.2.1, fun hf => ?_, fun hf => ?_⟩
  · obtain ⟨pd, pf⟩ := (retd_eonly hf).mp hP
    rw [← ev_depth, ← ev_fw, pd]
    exact ⟨iteInduction (motive := fun d => d = 0 ∨ d = pr.A) (fun _ => .inr rfl) fun _ => .inl rfl,
      pf⟩
  · obtain ⟨pd, pf⟩ := (retd_fw hf).mp hP
    obtain ⟨vd, vf⟩ := (retd_fw hf).mp hV
    refine ⟨pd, vd, fun h => ?_⟩
    -- the file is flagged only if a retraction is recorded
    rw [← ev_fw, vf] at h
    rw [← ev_fw, pf]
    cases hl : y.s.lastRetraction with
    | none => rw [hl] at h; cases h
    | some r => rfl

/-- **Recovered before printing resumes** (from `C04_amount`): when an extruding linear move or
E-only extrusion is forwarded outside regions, it comes last in the output, and the printer reaches
it at the file's retraction depth and flag — whatever was owed has been recovered by the commands
before it.  (How many recoveries those are is not stated here; that the printer is never deeper
than one retraction is `C05_depth`.) -/
theorem C05_recovered_first (pr : EProto α) (cfg : Config) (inch : α) (y : Sys α) (g : String)
    (c : Cmd α)
    (hg : GoodE pr y) (hl : isLinear g) (he : EDialect pr cfg y.s y.virt.ev g c)
    (hpre : y.s.excluding = false) (hpost : (y.step cfg inch (.gcode g c)).s.excluding = false)
    (hpos : 0 < T.deltaEOf y.s (lastValue c.words 'E')) :
    ∃ pre, Emit.forwarded (.gcode g c) (stepT cfg inch y.s (.gcode g c)).2 = pre ++ [.orig c] ∧
      (y.phys.execOuts cfg.g90InfluencesExtruder inch pre).depth = y.virt.depth ∧
      (y.phys.execOuts cfg.g90InfluencesExtruder inch pre).fwRetracted = y.virt.fwRetracted := by
  obtain ⟨pre, h1, _, h3, h4, _⟩ := C04_amount pr cfg inch y g c hg hl he hpre hpost hpos
  exact ⟨pre, h1, h3, h4⟩

/-- injected firmware retract/recover commands carry the text of the original `G10` -/
theorem C05_firmware_params (r : Retraction α) (dir : α) (p : Position α)
    (h : r.firmwareRetract = true) :
    (T.addCommands r dir p).2 = [.fw (decide (dir < 0)) r.originalCommand.text] :=
  addCommands_fw r dir p h

/-- a `G10` without `P`/`L` word, nothing recorded, records its command -/
theorem C05_g10_records (s : FState α) (c : Cmd α) (hn : s.lastRetraction = none)
    (hpl : (hasLetter c.words 'P' || hasLetter c.words 'L') = false) :
    ∃ r, (T.handleG10 s c).1.lastRetraction = some r ∧ r.firmwareRetract = true ∧
      r.originalCommand = c := by
  unfold T.handleG10
  simp only [hpl, Bool.false_eq_true, if_false, toResult_fst]
  unfold T.recordRetraction
  simp only [hn]
  split <;> exact ⟨_, rfl, rfl, rfl⟩

/-- the deepest retraction the file has requested along a run: the maximum of the virtual
printer's depth over all configurations visited, the final one included -/
def deepest (cfg : Config) (inch : α) : Sys α → List (Ev α) → α
  | y, [] => y.virt.depth
  | y, e :: es => max y.virt.depth (deepest cfg inch (y.step cfg inch e) es)

theorem deepest_ge_head (cfg : Config) (inch : α) (y : Sys α) (es : List (Ev α)) :
    y.virt.depth ≤ deepest cfg inch y es := by
  cases es with
  | nil => exact le_refl _
  | cons e rest => exact le_max_left _ _

theorem never_deeper_from (pr : EProto α) (cfg : Config) (inch : α) (hinch : inch ≠ 0)
    (es : List (Ev α)) :
    ∀ y : Sys α, GoodE pr y → ProtoRun pr cfg inch y es →
      (y.run cfg inch es).phys.depth ≤ max y.phys.depth (deepest cfg inch y es) := by
  induction es with
  | nil => intro y _ _; exact le_max_left _ _
  | cons e rest ih =>
    intro y hg hd
    -- one event retracts the printer no deeper than it was unless the file is
    have hstep := (sys_step_einv_depth cfg inch pr y e hg.good.wf hg.good.inv.pend hg.einv hd.2.1).2
    have key := ih _ (goodE_step pr cfg inch hinch y e hg hd.1 hd.2.1) hd.2.2
    show _ ≤ max y.phys.depth (max y.virt.depth (deepest cfg inch (y.step cfg inch e) rest))
    refine key.trans (max_le (hstep.trans (max_le (le_max_left _ _) ?_)) ?_)
    · exact (deepest_ge_head cfg inch _ rest).trans ((le_max_right _ _).trans (le_max_right _ _))
    · exact (le_max_right _ _).trans (le_max_right _ _)

/-- **Never retracted deeper than the deepest retraction the file has requested so far.** -/
theorem C05_never_deeper (pr : EProto α) (cfg : Config) (inch : α) (hinch : inch ≠ 0)
    (regions : List (Region α)) (es : List (Ev α))
    (hd : ProtoRun pr cfg inch (Sys.start regions) es) :
    ((Sys.start regions).run cfg inch es).phys.depth ≤
      deepest cfg inch (Sys.start regions) es := by
  refine (never_deeper_from pr cfg inch hinch es _ (goodE_start pr regions) hd).trans
    (max_le ?_ (le_refl _))
  have h0 : (Sys.start regions : Sys α).phys.depth = (Sys.start regions : Sys α).virt.depth := rfl
  rw [h0]; exact deepest_ge_head cfg inch _ es

/-! ## The commands the protocol is about are admissible

Each of the three theorems below gives `EDialect` for one command in a consistent configuration;
the homed start state is such a configuration (`goodE_start`, nothing recorded).  No theorem here
chains them into a `ProtoRun`. -/

/-- the logical E word that moves the extruder by `d` (native mm) from where it is -/
def eWord (s : FState α) (d : α) : α :=
  (cur s.position.e + d - (s.position.e.offset + s.position.e.homeOffset)) /
    s.position.e.unitMultiplier

theorem deltaE_eWord (s : FState α) (d : α) (habs : s.position.e.absoluteMode = true)
    (hu : s.position.e.unitMultiplier ≠ 0) : T.deltaEOf s (some (eWord s d)) = d := by
  simp only [T.deltaEOf, setLog, l2n, habs, if_true, eWord, cur, Option.getD_some]
  field_simp
  ring

theorem edialect_g1 (pr : EProto α) (cfg : Config) (s : FState α) (V : EV α) (t : Text)
    (w : List (Char × Option α)) (ep : Option α) (mv : Bool) (hE : lastValue w 'E' = ep)
    (hmv : T.isMoveOf (lastValue w 'Z') [(lastValue w 'X', lastValue w 'Y')] = mv)
    (h : if mv then MoveOK V (T.deltaEOf s ep) else NonMoveOK pr V (T.deltaEOf s ep)) :
    EDialect pr cfg s V "G1" { text := t, words := w, code := "G1" } := by
  subst hE hmv; exact ⟨rfl, h⟩

/-- an E-only retraction of length `A` is admissible whenever no retraction is recorded -/
theorem retraction_admissible (pr : EProto α) (cfg : Config) (y : Sys α) (hg : GoodE pr y)
    (hfw : pr.fw = false) (hn : y.s.lastRetraction = none) (t : Text) :
    EDialect pr cfg y.s y.virt.ev "G1"
      { text := t, words := [('E', some (eWord y.s (-pr.A)))], code := "G1" } := by
  have hV := hg.einv.virt_retd
  rw [hn] at hV
  refine edialect_g1 pr cfg y.s _ t _ (some (eWord y.s (-pr.A))) false rfl rfl ?_
  rw [deltaE_eWord y.s _ hg.einv.abs hg.good.wf.pos.e.2, if_neg Bool.false_ne_true]
  exact ⟨fun _ => ⟨hfw, (retd_false.mp hV).1, neg_neg _⟩,
    fun h => absurd h (not_lt.mpr (neg_nonpos.mpr pr.hA.le))⟩

/-- the matching recovery is admissible while the file is retracted -/
theorem recovery_admissible (pr : EProto α) (cfg : Config) (y : Sys α) (hg : GoodE pr y)
    (hfw : pr.fw = false) (r : Retraction α) (hn : y.s.lastRetraction = some r)
    (ho : r.recoverExcluded = false) (t : Text) :
    EDialect pr cfg y.s y.virt.ev "G1"
      { text := t, words := [('E', some (eWord y.s pr.A))], code := "G1" } := by
  have hV := hg.einv.virt_retd
  rw [hn] at hV
  refine edialect_g1 pr cfg y.s _ t _ (some (eWord y.s pr.A)) false rfl rfl ?_
  rw [deltaE_eWord y.s _ hg.einv.abs hg.good.wf.pos.e.2, if_neg Bool.false_ne_true]
  obtain ⟨vd, vf⟩ := (retd_eonly hfw).mp hV
  rw [Option.any_some, ho] at vd
  exact ⟨fun h => absurd h (not_lt.mpr pr.hA.le), fun _ => ⟨vf, Or.inr ⟨vd, rfl⟩⟩⟩

/-- an extruding move to any point is admissible while nothing is recorded (either style) -/
theorem extruding_move_admissible (pr : EProto α) (cfg : Config) (y : Sys α) (hg : GoodE pr y)
    (hn : y.s.lastRetraction = none) (x yy d : α) (hd0 : 0 ≤ d) (t : Text) :
    EDialect pr cfg y.s y.virt.ev "G1"
      { text := t, words := [('X', some x), ('Y', some yy), ('E', some (eWord y.s d))],
        code := "G1" } := by
  have hV := hg.einv.virt_retd
  rw [hn] at hV
  refine edialect_g1 pr cfg y.s _ t _ (some (eWord y.s d)) true rfl rfl ?_
  rw [deltaE_eWord y.s _ hg.einv.abs hg.good.wf.pos.e.2, if_pos rfl]
  exact ⟨hd0, fun _ => retd_false.mp hV⟩

end ERP.C05
