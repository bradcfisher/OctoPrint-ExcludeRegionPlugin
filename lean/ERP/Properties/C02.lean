import ERP.Lemmas.Refine
import ERP.Lemmas.RealOps
import ERP.Lemmas.GenTies -- tie to /repo
/-! # C02 — Transparency: a print that never touches a region is forwarded verbatim

`Quiet` (start state; kept by steps that do not hit: `C02_step`); `C02_identity` assumes `NeverHits`. -/
namespace ERP.C02
open T

variable {α : Type} [Field α] [LinearOrder α]

/-- nothing is pending: no episode open, nothing deferred, no recovery owed -/
structure Quiet (s : FState α) : Prop where
  notExcluding : s.excluding = false
  noPending : s.pendingCommands = []
  noOwed : ∀ lr, s.lastRetraction = some lr → lr.recoverExcluded = false

def Verbatim (cmd : Cmd α) (r : Result α) : Prop := fwdOf cmd r = [.orig cmd]

theorem Quiet.of_touch {s s' : FState α} (hq : Quiet s) (h : ETouch s s')
    (ho : ∀ lr, s'.lastRetraction = some lr → lr.recoverExcluded = false) : Quiet s' :=
  ⟨h.excluding.trans hq.notExcluding, h.pending.trans hq.noPending, ho⟩

theorem recordRetraction_quiet (s : FState α) (r : Retraction α) (hq : Quiet s)
    (hr : r.recoverExcluded = false) :
    (T.recordRetraction s r).2 = [.orig r.originalCommand] ∧ Quiet (T.recordRetraction s r).1 := by
  suffices key : (T.recordRetraction s r).2 = [.orig r.originalCommand] ∧
      ∀ lr, (T.recordRetraction s r).1.lastRetraction = some lr → lr.recoverExcluded = false from
    ⟨key.1, hq.of_touch (recordRetraction_touch s r) key.2⟩
  have stored : ∀ {lr'}, lr'.recoverExcluded = false →
      (storeRetraction s r lr').2 = [.orig r.originalCommand] ∧
      ∀ lr, (storeRetraction s r lr').1.lastRetraction = some lr → lr.recoverExcluded = false :=
    fun h' => by
      rw [storeRetraction, hq.notExcluding]
      exact ⟨rfl, fun lr e => Option.some.inj e ▸ h'⟩
  refine recordRetraction_cases (motive := fun p => p.2 = [.orig r.originalCommand] ∧
      ∀ lr, p.1.lastRetraction = some lr → lr.recoverExcluded = false) s r
    (fun _ => stored hr)
    (fun lr0 hl _ _ => stored (by unfold T.combine; split <;> exact hq.noOwed lr0 hl))
    (fun lr hl ho => absurd (hq.noOwed lr hl ▸ ho) Bool.false_ne_true)
    (fun _ _ _ _ => ⟨by rw [hq.notExcluding]; rfl, hq.noOwed⟩)

theorem recoverIfNeeded_quiet (s : FState α) (cmd : Cmd α) (b : Bool) (hq : Quiet s) :
    (T.recoverRetractionIfNeeded s cmd b).2 = [.orig cmd] ∧
      Quiet (T.recoverRetractionIfNeeded s cmd b).1 := by
  suffices key : (T.recoverRetractionIfNeeded s cmd b).2 = [.orig cmd] ∧
      ∀ lr, (T.recoverRetractionIfNeeded s cmd b).1.lastRetraction = some lr →
        lr.recoverExcluded = false from
    ⟨key.1, hq.of_touch (recoverIfNeeded_touch s cmd b) key.2⟩
  exact recoverIfNeeded_cases (motive := fun p => p.2 = [.orig cmd] ∧
      ∀ lr, p.1.lastRetraction = some lr → lr.recoverExcluded = false) s cmd b
    (fun _ => ⟨by rw [hq.notExcluding]; rfl, hq.noOwed⟩)
    (fun hx => absurd (hq.notExcluding ▸ hx) Bool.false_ne_true)
    (fun _ lr hl ho => absurd (hq.noOwed lr hl ▸ ho) Bool.false_ne_true)
    (fun _ _ _ _ => ⟨rfl, fun _ e => nomatch e⟩)

theorem processNonMove_quiet (s : FState α) (cmd : Cmd α) (dE : α) (hq : Quiet s) :
    (T.processNonMove s cmd dE).2 = [.orig cmd] ∧ Quiet (T.processNonMove s cmd dE).1 :=
  processNonMove_cases (motive := fun p => p.2 = [.orig cmd] ∧ Quiet p.1) s cmd dE
    (fun _ => by
      -- the retraction is forwarded, so no `G92 E` stands in for it
      obtain ⟨r1, r2⟩ := recordRetraction_quiet s
        ({ firmwareRetract := false, extrusionAmount := some (-dE), feedRate := some s.feedRate,
           originalCommand := cmd } : Retraction α) hq rfl
      rw [retractBranch, r1, List.isEmpty_cons, Bool.false_and, if_neg Bool.false_ne_true]
      exact ⟨r1, r2⟩)
    (fun _ => recoverIfNeeded_quiet s cmd true hq)
    (fun _ => ⟨by rw [hq.notExcluding]; rfl, hq⟩)

section
variable [MathOps α]

/-- a move that hits nothing, in a quiet state: forwarded verbatim, state stays quiet -/
theorem plm_quiet (cfg : Config) (s : FState α) (cmd : Cmd α) (ep fr fz : Option α)
    (xy : List (Option α × Option α)) (hq : Quiet s) (hhit : hitOf s ep fr fz xy = false) :
    Verbatim cmd (T.processLinearMoves cfg s cmd ep fr fz xy).2 ∧
    Quiet (T.processLinearMoves cfg s cmd ep fr fz xy).1 := by
  -- the state the words lead to is as quiet as `s`: only the axes and the feed rate differ
  have hqt : Quiet (tracked s ep fr fz xy) := ⟨hq.notExcluding, hq.noPending, hq.noOwed⟩
  have hrb : ∀ pE, recoverBranch (tracked s ep fr fz xy) cmd false pE =
      T.recoverRetractionIfNeeded (tracked s ep fr fz xy) cmd false :=
    fun pE => recoverBranch_eq_recoverIfNeeded _ cmd false pE fun lr hl => .inl (hqt.noOwed lr hl)
  obtain ⟨r, e, hr⟩ := plm_cases (motive := fun r => r.2 = [.orig cmd] ∧ Quiet r.1)
    cfg s cmd ep fr fz xy
    (fun _ => nonMoveBody_eq_processNonMove _ cmd _ _ (fun lr hl => .inl (hqt.noOwed lr hl)) ▸
      processNonMove_quiet _ cmd _ hqt)
    (fun _ hh => absurd (hhit ▸ hh) Bool.false_ne_true)
    (fun _ _ hx => absurd (hq.notExcluding ▸ hx) Bool.false_ne_true)
    (fun _ _ _ _ => hrb _ ▸ recoverIfNeeded_quiet _ cmd false hqt) (fun _ _ _ _ => ⟨rfl, hqt⟩)
  rw [Verbatim, e, fwdOf_toResult, toResult_fst]
  exact hr

/-- does an arc command test a sample that lies in an enabled region? (mirrors `_handle_G2`:
`false` when the arc is not executed) -/
def arcHit (s : FState α) (cmd : Cmd α) (clockwise : Bool) : Bool :=
  let w := cmd.words
  let x := (lastValue w 'X').getD (n2l s.position.x)
  let y := (lastValue w 'Y').getD (n2l s.position.y)
  let z := (lastValue w 'Z').getD (n2l s.position.z)
  let (i, j) := match lastValue w 'R' with
    | some r => T.computeArcCenterOffsets s.position x y r clockwise
    | none => ((lastValue w 'I').getD 0, (lastValue w 'J').getD 0)
  if !(i == 0) || !(j == 0) then
    hitOf s (lastValue w 'E') (lastValue w 'F') (some z)
      ((T.planArc s.position x y i j clockwise).map (fun (a, b) => (some a, some b)))
  else false

/-- does the command test a point that lies in an enabled region? (linear move: its destination;
arc: any of its samples; anything else: no) -/
def hits (s : FState α) (g : String) (cmd : Cmd α) : Bool :=
  match Code.ofString g with
  | .G0 | .G1 => hitOf s (lastValue cmd.words 'E') (lastValue cmd.words 'F') (lastValue cmd.words 'Z')
      [(lastValue cmd.words 'X', lastValue cmd.words 'Y')]
  | .G2 => arcHit s cmd true
  | .G3 => arcHit s cmd false
  | _ => false

theorem arcHit_eq (s : FState α) (cmd : Cmd α) (cw : Bool) :
    arcHit s cmd cw =
      (arcRuns s cmd cw && hitOf s (lastValue cmd.words 'E') (lastValue cmd.words 'F')
        (some ((lastValue cmd.words 'Z').getD (n2l s.position.z))) (arcPoints s cmd cw)) := by
  have ite_and : ∀ b c : Bool, (if b then c else false) = (b && c) := fun b c => by cases b <;> rfl
  unfold arcHit arcRuns arcPoints arcCentre
  dsimp only
  cases lastValue cmd.words 'R' <;> exact ite_and _ _

theorem arc_quiet (cfg : Config) (s : FState α) (cmd : Cmd α) (cw : Bool) (hq : Quiet s)
    (hno : arcHit s cmd cw = false) :
    Verbatim cmd (T.handleG2 cfg s cmd cw).2 ∧ Quiet (T.handleG2 cfg s cmd cw).1 := by
  rw [arcHit_eq] at hno
  rw [handleG2_eq]
  split
  · rename_i hr; rw [hr, Bool.true_and] at hno; exact plm_quiet cfg s cmd _ _ _ _ hq hno
  · exact ⟨rfl, hq⟩

/-- **One command.** In a quiet state, a command that hits no region is forwarded verbatim (the
hook returns `None` or the one-element list `[cmd]`) and the state stays quiet — for every code,
both values of `g90InfluencesExtruder`, whatever the words are. -/
theorem C02_step (cfg : Config) (inch : α) (s : FState α) (g : String) (cmd : Cmd α)
    (hq : Quiet s) (hno : hits s g cmd = false) :
    Verbatim cmd (T.handleGcode cfg inch s g cmd).2 ∧ Quiet (T.handleGcode cfg inch s g cmd).1 := by
  unfold hits at hno
  unfold T.handleGcode
  generalize Code.ofString g = c at *
  cases c with
  | G0 => exact plm_quiet cfg s cmd _ _ _ _ hq hno
  | G1 => exact plm_quiet cfg s cmd _ _ _ _ hq hno
  | G2 => exact arc_quiet cfg s cmd true hq hno
  | G3 => exact arc_quiet cfg s cmd false hq hno
  | G10 =>
    refine handleG10_cases (motive := fun r => Verbatim cmd r.2 ∧ Quiet r.1) s cmd
      ⟨rfl, hq⟩ ?_
    rw [Verbatim, fwdOf_toResult, toResult_fst]
    exact recordRetraction_quiet s _ hq rfl
  | G11 =>
    rw [T.handleG11, Verbatim, fwdOf_toResult, toResult_fst]
    exact recoverIfNeeded_quiet s cmd true hq
  | other n =>
    -- nothing is deferred outside an episode
    rcases processExtendedGcode_cases cfg s cmd g with e | ⟨hex, -⟩
    · rw [e]; exact ⟨rfl, hq⟩
    · exact absurd (hq.notExcluding ▸ hex) Bool.false_ne_true
  | _ => exact ⟨rfl, hq.notExcluding, hq.noPending, hq.noOwed⟩

theorem hits_false_of (s : FState α) (g : String) (cmd : Cmd α)
    (key : ∀ ep fr fz xy, hitOf s ep fr fz xy = false) : hits s g cmd = false := by
  unfold hits
  split
  · exact key _ _ _ _
  · exact key _ _ _ _
  · rw [arcHit_eq, key]; exact Bool.and_false _
  · rw [arcHit_eq, key]; exact Bool.and_false _
  · rfl

end

variable [IsStrictOrderedRing α] [MathOps α] [MathSpec α]

/-- no step of the program hits a region -/
def NeverHits (cfg : Config) (inch : α) : FState α → List (String × Cmd α) → Prop
  | _, [] => True
  | s, (g, c) :: rest => hits s g c = false ∧ NeverHits cfg inch (T.handleGcode cfg inch s g c).1 rest

def runG (cfg : Config) (inch : α) : FState α → List (String × Cmd α) → List (Cmd α × Result α)
  | _, [] => []
  | s, (g, c) :: rest =>
    let r := T.handleGcode cfg inch s g c
    (c, r.2) :: runG cfg inch r.1 rest

/-- **C02.** From a `Quiet` state, if no move destination (no arc sample) of the program ever lies
inside an enabled region, every command is forwarded unchanged and in order, nothing added, dropped
or rewritten. -/
theorem C02_identity (cfg : Config) (inch : α) (hinch : inch ≠ 0) (prog : List (String × Cmd α)) :
    ∀ s : FState α, WF s → Quiet s → NeverHits cfg inch s prog →
      ∀ cr ∈ runG cfg inch s prog, Verbatim cr.1 cr.2 := by
  induction prog with
  | nil => intro s _ _ _ cr hcr; cases hcr
  | cons gc rest ih =>
    intro s hw hq hn cr hcr
    obtain ⟨g, c⟩ := gc
    obtain ⟨h1, h2⟩ := C02_step cfg inch s g c hq hn.1
    simp only [runG, List.mem_cons] at hcr
    rcases hcr with rfl | hcr
    · exact h1
    · exact ih _ (handleGcode_ok cfg inch hinch s g c hw).2.1 h2 hn.2 cr hcr

set_option linter.unusedSectionVars false in
/-- at a state without regions nothing hits -/
theorem no_regions_no_hit (s : FState α) (g : String) (cmd : Cmd α) (hr : s.excludedRegions = []) :
    hits s g cmd = false := by
  apply hits_false_of
  intro ep fr fz xy
  have h0 : ∀ l : List (α × α), (l.any fun p => T.anyContains [] p.1 p.2) = false :=
    fun l => List.any_eq_false.mpr fun _ _ => Bool.false_ne_true
  rw [hitOf_eq, hr, h0, Bool.and_false, Bool.and_false]

set_option linter.unusedSectionVars false in
/-- … nor at a state with exclusion disabled -/
theorem disabled_never_hits (s : FState α) (g : String) (cmd : Cmd α) (hd : s.exclusionEnabled = false) :
    hits s g cmd = false :=
  hits_false_of s g cmd (fun ep fr fz xy => hitOf_of_disabled s ep fr fz xy hd)

/-- non-vacuity: a freshly started print over ℝ is quiet -/
example : Quiet (handleG28 (FState.reset ([] : List (Region ℝ))) { text := [], words := [], code := "G28" }) :=
  ⟨rfl, rfl, fun lr h => (Option.some_ne_none lr h.symm).elim⟩

end ERP.C02
